import Wasp.Proofs.BrokerRel
import Wasp.Properties.C04
import Wasp.Properties.C06
/-!
For Wasp/Properties/C02.lean and C03.lean: what `extendDeadline` and `armAndSend` write (the record `bumped`, the
in-flight entry and its callback: `Armed`), and that `send`/`distribute` only add PUBLISH packets to the output (`PubExt`).
-/
namespace Wasp.Broker.AgentC
open Wasp.Broker Wasp.Dist Wasp.Topic

theorem setNode_ge (w : World) (i : Nat) (n : Node) (hi : w.nodes.length ≤ i) :
    w.setNode i n = w := by
  cases w with
  | mk nodes out clock now epoch conns bufs deaf =>
    simp only [World.setNode, World.mk.injEq, and_true]
    simp only at hi
    exact List.set_eq_of_length_le hi

@[simp] theorem setNode_out (w : World) (i : Nat) (n : Node) : (w.setNode i n).out = w.out := rfl
@[simp] theorem emit_out (w : World) (c : String) (p : Pkt) : (w.emit c p).out = w.out ++ [(c, p)] := rfl
@[simp] theorem emit_node (w : World) (c : String) (p : Pkt) (j : Nat) : (w.emit c p).node j = w.node j := rfl
@[simp] theorem emit_length (w : World) (c : String) (p : Pkt) : (w.emit c p).nodes.length = w.nodes.length := rfl

theorem sess_setSess (n : Node) (sid : String) (s s' : Sess)
    (h : n.sess sid = some s) (hid : s'.id = sid) : (n.setSess s').sess sid = some s' := by
  subst hid
  exact sess_setSess_self n s' (by rw [h]; rfl)

/-- the session record after `extendDeadline` -/
def bumped (w : World) (s : Sess) : Sess := { s with deadline := w.now + 2 * s.keepalive * 1000 }

theorem extendDeadline_eq (w : World) (i : Nat) (sid : String) (s : Sess)
    (hs : (w.node i).sess sid = some s) :
    w.extendDeadline i sid = w.setNode i ((w.node i).setSess (bumped w s)) := by
  simp [World.extendDeadline, hs, bumped]

attribute [simp] extendDeadline_out

@[simp] theorem extendDeadline_length (w : World) (i : Nat) (sid : String) :
    (w.extendDeadline i sid).nodes.length = w.nodes.length := by
  simp only [World.extendDeadline]; cases (w.node i).sess sid <;> simp

theorem extendDeadline_node (w : World) (i : Nat) (hi : i < w.nodes.length) (sid : String) (s : Sess)
    (hs : (w.node i).sess sid = some s) :
    (w.extendDeadline i sid).node i = (w.node i).setSess (bumped w s) := by
  rw [extendDeadline_eq w i sid s hs, node_setNode_self _ _ _ hi]

theorem storedFind_append (k : Ack.Key) (l l' : List (Ack.Key × Stored)) :
    storedFind k (l ++ l') = match storedFind k l with | some s => some s | none => storedFind k l' := by
  induction l with
  | nil => simp [storedFind]
  | cons x rest ih =>
    obtain ⟨k', s⟩ := x
    simp only [List.cons_append, storedFind]
    split <;> simp_all

theorem insert_ok (q : Ack.Queue) (pfx : String) (kind : Ack.PType) (qos : Nat) (mid : Int) (d : Ack.Time)
    (st : Ack.PType) (hmid : mid ≠ 0) (hfree : Ack.msgFind (Ack.hashKey pfx mid) q.msgs = none)
    (hk : Ack.expectedAck kind qos = .ok st) :
    Ack.insert q pfx kind qos mid d =
      ({ msgs := q.msgs ++ [(Ack.hashKey pfx mid, ⟨st, kind, mid, d⟩)],
         timeouts := Ack.pqInsert (Ack.hashKey pfx mid) d q.timeouts }, .ok) := by
  unfold Ack.insert
  cases kind <;> simp_all [Ack.expectedAck]

/-- what a successful `armAndSend` does to world `w` (result `w'`) -/
structure Armed (w w' : World) (i : Nat) (sid : String) (mid : Int) (st : Stored) (conn : String) (pkt : Pkt) : Prop where
  out : w'.out = w.out ++ [(conn, pkt)]
  msgs : ∃ m, (w'.node i).acks.msgs = (w.node i).acks.msgs ++ [(Ack.hashKey sid mid, m)]
  stored : (w'.node i).stored = (w.node i).stored ++ [(Ack.hashKey sid mid, st)]
  pool : (w'.node i).pool = (w.node i).pool
  len : w'.nodes.length = w.nodes.length

/-- the arming branch that `out1`, `out2` and `rel` share: the deadline extended, the entry inserted, the callback
    remembered, the packet written -/
theorem armed_of_insert (w : World) (i : Nat) (hi : i < w.nodes.length) (sid : String) (mid : Int) (s : Sess)
    (hs : (w.node i).sess sid = some s) (hmid : mid ≠ 0)
    (hfree : Ack.msgFind (Ack.hashKey sid mid) (w.node i).acks.msgs = none)
    (kind : Ack.PType) (qos : Nat) (a : Ack.PType) (hk : Ack.expectedAck kind qos = .ok a)
    (st : Stored) (conn : String) (pkt : Pkt) :
    let w₁ := w.extendDeadline i sid
    let r := Ack.insert (w₁.node i).acks sid kind qos mid (ackDeadline w₁)
    r.2 = .ok ∧
    Armed w ((w₁.setNode i { w₁.node i with acks := r.1, stored := (w₁.node i).stored ++ [(Ack.hashKey sid mid, st)] }).emit
      conn pkt) i sid mid st conn pkt := by
  intro w₁ r
  have hn : w₁.node i = (w.node i).setSess (bumped w s) := extendDeadline_node w i hi sid s hs
  have hi₁ : i < w₁.nodes.length := by rw [extendDeadline_length]; exact hi
  have hr : r = _ := insert_ok (w₁.node i).acks sid kind qos mid (ackDeadline w₁) a hmid (by rw [hn]; exact hfree) hk
  rw [hr]
  refine ⟨rfl, ?_⟩
  constructor
  · simp [w₁]
  · simp [node_setNode_self _ _ _ hi₁, hn, Node.setSess]
  · simp [node_setNode_self _ _ _ hi₁, hn, Node.setSess]
  · simp [node_setNode_self _ _ _ hi₁, hn, Node.setSess]
  · simp [w₁]

theorem armAndSend_out1 (w : World) (i : Nat) (hi : i < w.nodes.length) (sid topic payload : String)
    (retain dup : Bool) (mid : Int) (s : Sess) (hs : (w.node i).sess sid = some s) (hmid : mid ≠ 0)
    (hfree : Ack.msgFind (Ack.hashKey sid mid) (w.node i).acks.msgs = none) :
    Armed w (w.armAndSend i (.out1 sid topic payload retain dup mid)) i sid mid
      (.out1 sid topic payload retain dup mid) s.conn (.publish topic payload 1 retain dup mid) := by
  obtain ⟨hok, hA⟩ := armed_of_insert w i hi sid mid s hs hmid hfree .publish 1 .puback rfl
    (.out1 sid topic payload retain dup mid) s.conn (.publish topic payload 1 retain dup mid)
  simp only [World.armAndSend, hs, hok, if_true]
  exact hA

theorem armAndSend_out2 (w : World) (i : Nat) (hi : i < w.nodes.length) (sid topic payload : String)
    (retain dup : Bool) (mid : Int) (s : Sess) (hs : (w.node i).sess sid = some s) (hmid : mid ≠ 0)
    (hfree : Ack.msgFind (Ack.hashKey sid mid) (w.node i).acks.msgs = none) :
    Armed w (w.armAndSend i (.out2 sid topic payload retain dup mid)) i sid mid
      (.out2 sid topic payload retain dup mid) s.conn (.publish topic payload 2 retain dup mid) := by
  obtain ⟨hok, hA⟩ := armed_of_insert w i hi sid mid s hs hmid hfree .publish 2 .pubrec rfl
    (.out2 sid topic payload retain dup mid) s.conn (.publish topic payload 2 retain dup mid)
  simp only [World.armAndSend, hs, hok, if_true]
  exact hA

theorem armAndSend_rel (w : World) (i : Nat) (hi : i < w.nodes.length) (sid : String)
    (mid : Int) (s : Sess) (hs : (w.node i).sess sid = some s) (hmid : mid ≠ 0)
    (hfree : Ack.msgFind (Ack.hashKey sid mid) (w.node i).acks.msgs = none) :
    Armed w (w.armAndSend i (.rel sid mid)) i sid mid (.rel sid mid) s.conn (.pubrel mid) := by
  obtain ⟨hok, hA⟩ := armed_of_insert w i hi sid mid s hs hmid hfree .pubrel 0 .pubcomp rfl
    (.rel sid mid) s.conn (.pubrel mid)
  simp only [World.armAndSend, hs, hok, if_true]
  exact hA

/-! ### only PUBLISH packets are written by `send` / `distribute` -/

def isPub : Pkt → Bool
  | .publish .. => true
  | _ => false

abbrev PubExt (w w' : World) : Prop := Grew (fun x => isPub x.2 = true) w w'

theorem armAndSend_pubExt (w : World) (i : Nat) (st : Stored) (hst : ∀ sid mid, st ≠ .rel sid mid) :
    PubExt w (w.armAndSend i st) := by
  unfold World.armAndSend
  cases st with
  | out1 sid t p r d m | out2 sid t p r d m =>
    simp only
    split
    · exact .refl _ w
    · split
      · exact .trans (.of_eq (extendDeadline_out w i sid)) (.emit _ _ _ rfl)
      · exact .of_eq (extendDeadline_out w i sid)
  | rel sid mid => exact absurd rfl (hst sid mid)
  | inbound => exact .refl _ w

theorem sendArmed_pubExt (w : World) (i : Nat) (st : Stored) (sid : String) (mid : Int)
    (hst : ∀ sid mid, st ≠ .rel sid mid) : PubExt w (w.sendArmed i st sid mid) :=
  sendArmed_of (P := PubExt w) (armAndSend_pubExt w i st hst) (fun _ => (armAndSend_pubExt w i st hst).trans (.of_eq rfl))

theorem send_pubExt (i : Nat) (p : Pub) (rc : List (String × Int)) (w : World) : PubExt w (w.send i rc p) :=
  send_of (P := PubExt w)
    (fun w' sid _ _ h => h.trans (.trans (.of_eq (extendDeadline_out w' i sid)) (.emit _ _ _ rfl)))
    (fun w' sid qos _ _ _ h => h.trans ((Grew.of_eq (setNode_out w' i _)).trans
      (sendArmed_pubExt _ i _ sid _ (fun s m h => by split at h <;> cases h)))) rc w (.refl _ w)

theorem distribute_pubExt (w : World) (i : Nat) (p : Pub) : PubExt w (w.distribute i p).1 :=
  distribute_of (P := PubExt w) (fun _ _ _ h => h.trans (.of_eq rfl)) (fun _ j p h => h.trans (send_pubExt j p _ _))
    (.refl _ w) i p

end Wasp.Broker.AgentC
