import Wasp.Proofs.BrokerRel
import Wasp.Proofs.BrokerF
/-!
The session registries across the functions around the publish path: instances of the lemmas of BrokerRel.lean for
`SameReg` of BrokerD.lean and `Keep` of BrokerF.lean.
-/
namespace Wasp.Broker.AgentD
open Wasp.Broker

theorem sr_deliverGossip (w : World) (a b : Nat) : SameReg w (w.deliverGossip a b) :=
  deliverGossip_rel SameReg.refl SameReg.trans (fun w i _ => sr_setNode_reg w i _ rfl) (fun w i _ => sr_setNode_reg w i _ rfl)
    w a b

theorem clientPacket_keeps (w : World) (c : String) (pkt : CPkt) (i : Nat) (sid : String)
    (h : sid ∈ (w.node i).reg.map (·.id)) (hne : sid ≠ "S" ++ c) :
    sid ∈ ((w.clientPacket c pkt).node i).reg.map (·.id) :=
  AgentF.Keep.of_acts (acts_clientPacket w c pkt) i sid hne h

end Wasp.Broker.AgentD
