import Wasp.Model.BrokerOps
import Wasp.Proofs.BrokerT6
import Wasp.Proofs.BrokerT3
/-! One outbound QoS 1 or QoS 2 exchange on node 0, for Wasp/Properties/C02E2E.lean and C03C14E2E.lean: what a successful
    `armAndSend` records (`SentG`), node 0 while the exchange is in flight (`Flight`), its acknowledgement, its expiry. -/
namespace Wasp.Broker
open Wasp.Dist Wasp.Topic

/-- the recipients node 0 resolves for a stored publish -/
def localRecipients (w : World) (pt : String) : List (String × Int) :=
  ((subByPattern (w.node 0).dist pt).filter (fun u => u.peer == (w.node 0).peer)).map (fun u => (u.session, u.qos))

end Wasp.Broker

namespace Wasp.Broker.AgentT18
open Wasp.Broker Wasp.Broker.AgentT6

/-- the in-flight entry of a PUBREL armed in a world of epoch `e` (acknowledged by PUBCOMP) -/
def msgRel (e : Nat) (mid : Int) : Ack.Msg := ⟨.pubcomp, .pubrel, mid, (e : Int) * 10000 + 3000⟩

/-- what a successful `armAndSend` does to node i -/
structure SentG (w w' : World) (i : Nat) (sid : String) (mid : Int) (m : Ack.Msg) (st : Stored) : Prop where
  len : w'.nodes.length = w.nodes.length
  epoch : w'.epoch = w.epoch
  acks : (w'.node i).acks =
    { msgs := (w.node i).acks.msgs ++ [(Ack.hashKey sid mid, m)],
      timeouts := Ack.pqInsert (Ack.hashKey sid mid) m.deadline (w.node i).acks.timeouts }
  stored : (w'.node i).stored = (w.node i).stored ++ [(Ack.hashKey sid mid, st)]
  pool : (w'.node i).pool = (w.node i).pool
  cm : CM (w.node i) (w'.node i)

/-- node 0 of `w'` is node 0 of `w` with the identifier drawn and exactly one more in-flight exchange, filed under the
    key of `(sid, mid)` with in-flight entry `m` and callback `st` -/
structure Flight (w w' : World) (sid : String) (mid : Int) (m : Ack.Msg) (st : Stored) : Prop where
  len : w'.nodes.length = w.nodes.length
  epoch : w'.epoch = w.epoch
  msgs : (w'.node 0).acks.msgs = (w.node 0).acks.msgs ++ [(Ack.hashKey sid mid, m)]
  stored : (w'.node 0).stored = (w.node 0).stored ++ [(Ack.hashKey sid mid, st)]
  pool : (w'.node 0).pool = (IdPool.get (w.node 0).pool).1
  cm : CM (w.node 0) (w'.node 0)

end Wasp.Broker.AgentT18

namespace Wasp.Broker.AgentT12
open Wasp.Broker Wasp.Dist Wasp.Topic Wasp.Broker.AgentC Wasp.Broker.AgentT6 Wasp.Broker.AgentT18

theorem process_publish1 (w : World) (i : Nat) (sid : String) (s : Sess) (hs : (w.node i).sess sid = some s)
    (topic payload : String) (dup : Bool) (mid : Int) :
    (w.process i sid (.publish topic payload 1 false dup mid)).1 =
      if (w.distribute i ⟨prefixMountPoint s.mount topic, payload, 1, false, dup⟩).2 = true then
        (w.distribute i ⟨prefixMountPoint s.mount topic, payload, 1, false, dup⟩).1.emit s.conn (.puback mid)
      else (w.distribute i ⟨prefixMountPoint s.mount topic, payload, 1, false, dup⟩).1 := by
  rw [process_publish hs, if_neg (by decide), if_pos rfl, publishJob_eq]
  dsimp only [retainStep]
  simp only [Bool.false_eq_true, if_false]

theorem extendDeadline_epoch (w : World) (i : Nat) (sid : String) : (w.extendDeadline i sid).epoch = w.epoch := by
  simp only [World.extendDeadline]; cases (w.node i).sess sid <;> rfl

/-- the arming branch that `out1`, `out2` and `rel` share (`AgentC.armed_of_insert`, for the larger record `SentG`) -/
theorem arm_sentG (w : World) (i : Nat) (hi : i < w.nodes.length) (sid : String) (s : Sess)
    (hs : (w.node i).sess sid = some s) (kind ack : Ack.PType) (qos : Nat) (hk : Ack.expectedAck kind qos = .ok ack)
    (mid : Int) (hmid : mid ≠ 0) (hfree : Ack.msgFind (Ack.hashKey sid mid) (w.node i).acks.msgs = none)
    (st : Stored) (pkt : Pkt) :
    let w₁ := w.extendDeadline i sid
    let r := Ack.insert (w₁.node i).acks sid kind qos mid (ackDeadline w₁)
    let w' := (w₁.setNode i { w₁.node i with acks := r.1, stored := (w₁.node i).stored ++ [(Ack.hashKey sid mid, st)] }).emit s.conn pkt
    r.2 = .ok ∧ SentG w w' i sid mid ⟨ack, kind, mid, (w.epoch : Int) * 10000 + 3000⟩ st ∧ w'.out = w.out ++ [(s.conn, pkt)] := by
  intro w₁ r
  have hn : w₁.node i = (w.node i).setSess (bumped w s) := extendDeadline_node w i hi sid s hs
  have hi₁ : i < w₁.nodes.length := by rw [extendDeadline_length]; exact hi
  have hep : w₁.epoch = w.epoch := extendDeadline_epoch w i sid
  have hr : r = _ := insert_ok (w₁.node i).acks sid kind qos mid (ackDeadline w₁) ack hmid (by rw [hn]; exact hfree) hk
  rw [hr]
  refine ⟨rfl, ⟨?_, hep, ?_, ?_, ?_, ?_⟩, ?_⟩
  · rw [emit_length, setNode_length, extendDeadline_length]
  · rw [emit_node, node_setNode_self _ _ _ hi₁, hn, ackDeadline, hep]
    rfl
  · rw [emit_node, node_setNode_self _ _ _ hi₁, hn]
    rfl
  · rw [emit_node, node_setNode_self _ _ _ hi₁, hn]
    rfl
  · rw [emit_node, node_setNode_self _ _ _ hi₁, hn]
    have hcm : CM (w.node i) ((w.node i).setSess (bumped w s)) := CM.setSess hs rfl rfl rfl
    exact hcm.trans (CM.of_reg_eq rfl)
  · rw [emit_out, setNode_out, extendDeadline_out]

theorem armAndSend_sentG {w : World} {i : Nat} {st : Stored} {sid : String} {kind ack : Ack.PType} {qos : Nat} {mid : Int}
    {pk : Pkt} {s : Sess} (harm : st.arm = some (sid, kind, qos, mid, pk)) (hk : Ack.expectedAck kind qos = .ok ack)
    (hi : i < w.nodes.length) (hs : (w.node i).sess sid = some s) (hmid : mid ≠ 0)
    (hfree : Ack.msgFind (Ack.hashKey sid mid) (w.node i).acks.msgs = none) :
    SentG w (w.armAndSend i st) i sid mid ⟨ack, kind, mid, (w.epoch : Int) * 10000 + 3000⟩ st ∧
    (w.armAndSend i st).out = w.out ++ [(s.conn, pk)] := by
  obtain ⟨hok, h⟩ := arm_sentG w i hi sid s hs kind ack qos hk mid hmid hfree st pk
  cases st with
  | inbound => cases harm
  | out1 =>
    cases harm
    simp only [World.armAndSend, hs, hok, if_true]
    exact h
  | out2 =>
    cases harm
    simp only [World.armAndSend, hs, hok, if_true]
    exact h
  | rel =>
    cases harm
    simp only [World.armAndSend, hs, hok, if_true]
    exact h

/-- the two kinds of outbound PUBLISH: the subscription's QoS `q`, the same number `qn` on the wire, the acknowledgement
    awaited, the callback's constructor -/
def OutKind (q : Int) (qn : Nat) (ack : Ack.PType) (mk : String → String → String → Bool → Bool → Int → Stored) : Prop :=
  (q = 1 ∧ qn = 1 ∧ ack = .puback ∧ mk = .out1) ∨ (q = 2 ∧ qn = 2 ∧ ack = .pubrec ∧ mk = .out2)

section kind
variable {q : Int} {qn : Nat} {ack : Ack.PType} {mk : String → String → String → Bool → Bool → Int → Stored}

theorem OutKind.q12 (hk : OutKind q qn ack mk) : q = 1 ∨ q = 2 := hk.imp (·.1) (·.1)

/-- `send` chooses the callback by the QoS -/
theorem OutKind.mk_eq (hk : OutKind q qn ack mk) (a b c : String) (d e : Bool) (f : Int) :
    (if q = 1 then Stored.out1 a b c d e f else Stored.out2 a b c d e f) = mk a b c d e f := by
  rcases hk with ⟨rfl, _, _, rfl⟩ | ⟨rfl, _, _, rfl⟩
  · exact if_pos rfl
  · exact if_neg (by decide)

theorem OutKind.arm (hk : OutKind q qn ack mk) (sid t pl : String) (rt d : Bool) (mid : Int) :
    (mk sid t pl rt d mid).arm = some (sid, .publish, qn, mid, .publish t pl qn rt d mid) := by
  rcases hk with ⟨_, rfl, _, rfl⟩ | ⟨_, rfl, _, rfl⟩ <;> rfl

theorem OutKind.expected (hk : OutKind q qn ack mk) : Ack.expectedAck .publish qn = .ok ack := by
  rcases hk with ⟨_, rfl, rfl, _⟩ | ⟨_, rfl, rfl, _⟩ <;> rfl

/-- `sendArmed` does not give the identifier back: the entry was inserted -/
theorem send_one (hk : OutKind q qn ack mk) (w : World) (i : Nat) (hi : i < w.nodes.length) (sid : String) (s : Sess)
    (hs : (w.node i).sess sid = some s) (p : Pub) (hget : 0 < (IdPool.get (w.node i).pool).2)
    (hfresh : Ack.msgFind (Ack.hashKey sid (IdPool.get (w.node i).pool).2) (w.node i).acks.msgs = none) :
    SentG (w.setNode i { w.node i with pool := (IdPool.get (w.node i).pool).1 }) (w.send i [(sid, q)] p) i sid
      (IdPool.get (w.node i).pool).2 ⟨ack, .publish, (IdPool.get (w.node i).pool).2, (w.epoch : Int) * 10000 + 3000⟩
      (mk sid (trimMountPoint s.mount p.topic) p.payload p.retain p.dup (IdPool.get (w.node i).pool).2) ∧
    (w.send i [(sid, q)] p).out = w.out ++
      [(s.conn, .publish (trimMountPoint s.mount p.topic) p.payload qn p.retain p.dup (IdPool.get (w.node i).pool).2)] := by
  have hle : ¬ (IdPool.get (w.node i).pool).2 ≤ 0 := by omega
  have hq0 : ¬ q = 0 := by have := hk.q12; omega
  simp only [World.send, hs, if_neg hq0, if_pos hk.q12, if_neg hle, hk.mk_eq]
  generalize hw2 : w.setNode i _ = w2
  have hn2 : w2.node i = { w.node i with pool := (IdPool.get (w.node i).pool).1 } := by
    rw [← hw2, node_setNode_self _ _ _ hi]
  have h := armAndSend_sentG (w := w2) (hk.arm sid (trimMountPoint s.mount p.topic) p.payload p.retain p.dup
    (IdPool.get (w.node i).pool).2) hk.expected (by rw [← hw2, setNode_length]; exact hi) (by rw [hn2]; exact hs) (by omega)
    (by rw [hn2]; exact hfresh)
  rw [show w2.epoch = w.epoch by rw [← hw2]; rfl, show w2.out = w.out by rw [← hw2]; rfl] at h
  unfold World.sendArmed
  simp only
  rw [if_neg]
  · exact h
  · rintro ⟨h1, _⟩
    rw [h.1.acks] at h1
    simp at h1

end kind

/-- the in-flight entry of a QoS 1 delivery armed in a world of epoch `e` -/
def msg1 (e : Nat) (mid : Int) : Ack.Msg := ⟨.puback, .publish, mid, (e : Int) * 10000 + 3000⟩

/-- what a successful QoS 1 `armAndSend` does to node i -/
structure Sent (w w' : World) (i : Nat) (sid : String) (mid : Int) (st : Stored) : Prop where
  len : w'.nodes.length = w.nodes.length
  epoch : w'.epoch = w.epoch
  acks : (w'.node i).acks =
    { msgs := (w.node i).acks.msgs ++ [(Ack.hashKey sid mid, msg1 w.epoch mid)],
      timeouts := Ack.pqInsert (Ack.hashKey sid mid) ((w.epoch : Int) * 10000 + 3000) (w.node i).acks.timeouts }
  stored : (w'.node i).stored = (w.node i).stored ++ [(Ack.hashKey sid mid, st)]
  pool : (w'.node i).pool = (w.node i).pool
  cm : CM (w.node i) (w'.node i)

theorem kind1 : OutKind 1 1 .puback .out1 := .inl ⟨rfl, rfl, rfl, rfl⟩

theorem kind2 : OutKind 2 2 .pubrec .out2 := .inr ⟨rfl, rfl, rfl, rfl⟩

theorem flight_of_sentG {w w2 w' : World} {sid : String} {mid : Int} {m : Ack.Msg} {st : Stored} {c : Nat} {l : List Pub}
    (hS : SentG w2 w' 0 sid mid m st) (hlen : w2.nodes.length = w.nodes.length) (hep : w2.epoch = w.epoch)
    (hn2 : w2.node 0 = { w.node 0 with logCalls := c, log := l, pool := (IdPool.get (w.node 0).pool).1 }) :
    Flight w w' sid mid m st ∧
    (w'.node 0).acks.timeouts = Ack.pqInsert (Ack.hashKey sid mid) m.deadline (w.node 0).acks.timeouts := by
  refine ⟨⟨?_, ?_, ?_, ?_, ?_, ?_⟩, ?_⟩
  · rw [hS.len, hlen]
  · rw [hS.epoch, hep]
  · rw [hS.acks, hn2]
  · rw [hS.stored, hn2]
  · rw [hS.pool, hn2]
  · exact (CM.of_reg_eq (n := w.node 0) (n' := w2.node 0) (by rw [hn2])).trans hS.cm
  · rw [hS.acks, hn2]

theorem flight_emit {w w' : World} {sid : String} {mid : Int} {m : Ack.Msg} {st : Stored} (h : Flight w w' sid mid m st)
    (c : String) (pk : Pkt) : Flight w (w'.emit c pk) sid mid m st :=
  ⟨h.len, h.epoch, h.msgs, h.stored, h.pool, h.cm⟩

/-- the QoS 1 publish whose only local recipient subscribed with QoS `q` -/
theorem publish_flight {q : Int} {qn : Nat} {ack : Ack.PType} {mk : String → String → String → Bool → Bool → Int → Stored}
    (hk : OutKind q qn ack mk) (w : World) (hlen : w.nodes.length = 1)
    (hpeer : ∀ kl ∈ (w.node 0).dist.subs, ∀ u ∈ kl.2, u.peer = (w.node 0).peer)
    (p r : Sess) (hp : (w.node 0).sess p.id = some p) (hrr : (w.node 0).sess r.id = some r)
    (topic payload : String) (dup : Bool) (mid : Int)
    (hrc : localRecipients w (prefixMountPoint p.mount topic) = [(r.id, q)])
    (hpool : 0 < (IdPool.get (w.node 0).pool).2)
    (hfresh : Ack.msgFind (Ack.hashKey r.id (IdPool.get (w.node 0).pool).2) (w.node 0).acks.msgs = none)
    (hlog : (w.node 0).logFailAll = false ∧ (w.node 0).logFailAt.contains (w.node 0).logCalls = false) :
    (w.process 0 p.id (.publish topic payload 1 false dup mid)).1.out =
      w.out ++ [(r.conn, Pkt.publish (trimMountPoint r.mount (prefixMountPoint p.mount topic)) payload qn false dup (IdPool.get (w.node 0).pool).2),
                (p.conn, Pkt.puback mid)] ∧
    Flight w (w.process 0 p.id (.publish topic payload 1 false dup mid)).1 r.id (IdPool.get (w.node 0).pool).2
      ⟨ack, .publish, (IdPool.get (w.node 0).pool).2, (w.epoch : Int) * 10000 + 3000⟩
      (mk r.id (trimMountPoint r.mount (prefixMountPoint p.mount topic)) payload false dup (IdPool.get (w.node 0).pool).2) ∧
    ((w.process 0 p.id (.publish topic payload 1 false dup mid)).1.node 0).acks.timeouts =
      Ack.pqInsert (Ack.hashKey r.id (IdPool.get (w.node 0).pool).2) ((w.epoch : Int) * 10000 + 3000) (w.node 0).acks.timeouts := by
  have hi : 0 < w.nodes.length := by omega
  have hne : subByPattern (w.node 0).dist (prefixMountPoint p.mount topic) ≠ [] := by
    intro he
    simp [localRecipients, he] at hrc
  rw [process_publish1 w 0 p.id p hp,
    distribute_one w hlen ⟨prefixMountPoint p.mount topic, payload, 1, false, dup⟩ hpeer hne hlog, if_pos rfl]
  generalize hw1 : w.setNode 0 _ = w1
  have hn1 : w1.node 0 = { w.node 0 with logCalls := (w.node 0).logCalls + 1, log := (w.node 0).log ++ [⟨prefixMountPoint p.mount topic, payload, 1, false, dup⟩] } := by
    rw [← hw1, node_setNode_self _ _ _ hi]
  have hi1 : 0 < w1.nodes.length := by rw [← hw1, setNode_length]; exact hi
  have hdl : w1.deliverLocal 0 ⟨prefixMountPoint p.mount topic, payload, 1, false, dup⟩ =
      w1.send 0 [(r.id, q)] ⟨prefixMountPoint p.mount topic, payload, 1, false, dup⟩ := by
    unfold World.deliverLocal
    simp only [hn1]
    exact congrArg (fun l => w1.send 0 l _) hrc
  obtain ⟨hS, hO⟩ := send_one hk w1 0 hi1 r.id r (by rw [hn1]; exact hrr) ⟨prefixMountPoint p.mount topic, payload, 1, false, dup⟩
    (by rw [hn1]; exact hpool) (by rw [hn1]; exact hfresh)
  simp only [hn1] at hS hO
  rw [show w1.epoch = w.epoch by rw [← hw1]; rfl] at hS
  obtain ⟨hF, hT⟩ := flight_of_sentG (w := w) hS (by rw [setNode_length, ← hw1, setNode_length]) (by rw [← hw1]; rfl)
    (node_setNode_self _ _ _ hi1)
  rw [hdl]
  have ho1 : w1.out = w.out := by rw [← hw1]; rfl
  refine ⟨?_, flight_emit hF _ _, hT⟩
  rw [emit_out, hO, ho1, List.append_assoc]
  rfl

/-- no callback is stored under the key of a free identifier (for a session id not ending in "/in") -/
theorem stored_fresh {n : Node} (hn : PoolInv n) (sid : String) (hsid : ∀ s, sid ≠ s ++ "/in") (mid : Int)
    (hfree : IdPool.freeIn n.pool.ivs mid) : storedFind (Ack.hashKey sid mid) n.stored = none := by
  cases hf : storedFind (Ack.hashKey sid mid) n.stored with
  | none => rfl
  | some st =>
    exfalso
    have hm := storedFind_mem hf
    cases ho : st.out? with
    | some x =>
      obtain ⟨hk, hnf⟩ := hn.key _ _ x.1 x.2 hm ho
      rw [(AgentT3.hashKey_inj hk).2] at hfree
      exact hnf hfree
    | none =>
      cases st with
      | inbound s' c pb m' => exact hsid s' (AgentT3.hashKey_inj (hn.inb _ s' c pb m' hm)).1
      | _ => cases ho

/-- the state after the QoS 1 publish of the end-to-end theorems -/
structure Delivered (w w' : World) (sid : String) (mid : Int) (st : Stored) : Prop where
  len : w'.nodes.length = w.nodes.length
  epoch : w'.epoch = w.epoch
  acks : (w'.node 0).acks =
    { msgs := (w.node 0).acks.msgs ++ [(Ack.hashKey sid mid, msg1 w.epoch mid)],
      timeouts := Ack.pqInsert (Ack.hashKey sid mid) ((w.epoch : Int) * 10000 + 3000) (w.node 0).acks.timeouts }
  stored : (w'.node 0).stored = (w.node 0).stored ++ [(Ack.hashKey sid mid, st)]
  pool : (w'.node 0).pool = (IdPool.get (w.node 0).pool).1
  cm : CM (w.node 0) (w'.node 0)

theorem Delivered.flight {w w' : World} {sid : String} {mid : Int} {st : Stored} (h : Delivered w w' sid mid st) :
    Flight w w' sid mid (msg1 w.epoch mid) st :=
  ⟨h.len, h.epoch, by rw [h.acks], h.stored, h.pool, h.cm⟩

theorem publish_delivered (w : World) (hlen : w.nodes.length = 1)
    (hpeer : ∀ kl ∈ (w.node 0).dist.subs, ∀ u ∈ kl.2, u.peer = (w.node 0).peer)
    (p r : Sess) (hp : (w.node 0).sess p.id = some p) (hrr : (w.node 0).sess r.id = some r)
    (topic payload : String) (dup : Bool) (mid : Int)
    (hrc : localRecipients w (prefixMountPoint p.mount topic) = [(r.id, 1)])
    (hpool : 0 < (IdPool.get (w.node 0).pool).2)
    (hfresh : Ack.msgFind (Ack.hashKey r.id (IdPool.get (w.node 0).pool).2) (w.node 0).acks.msgs = none)
    (hlog : (w.node 0).logFailAll = false ∧ (w.node 0).logFailAt.contains (w.node 0).logCalls = false) :
    (w.process 0 p.id (.publish topic payload 1 false dup mid)).1.out =
      w.out ++ [(r.conn, Pkt.publish (trimMountPoint r.mount (prefixMountPoint p.mount topic)) payload 1 false dup (IdPool.get (w.node 0).pool).2),
                (p.conn, Pkt.puback mid)] ∧
    Delivered w (w.process 0 p.id (.publish topic payload 1 false dup mid)).1 r.id (IdPool.get (w.node 0).pool).2
      (.out1 r.id (trimMountPoint r.mount (prefixMountPoint p.mount topic)) payload false dup (IdPool.get (w.node 0).pool).2) := by
  obtain ⟨hout, hF, hT⟩ := publish_flight kind1 w hlen hpeer p r hp hrr topic payload dup mid hrc hpool hfresh hlog
  generalize (w.process 0 p.id (.publish topic payload 1 false dup mid)).1 = w' at hout hF hT ⊢
  refine ⟨hout, hF.len, hF.epoch, ?_, hF.stored, hF.pool, hF.cm⟩
  -- a queue is its two fields
  rw [show (w'.node 0).acks = ⟨(w'.node 0).acks.msgs, (w'.node 0).acks.timeouts⟩ from rfl, hF.msgs, hT]
  rfl

theorem msgFind_snoc_self {k : Ack.Key} {m : Ack.Msg} {l : List (Ack.Key × Ack.Msg)} (h : Ack.msgFind k l = none) :
    Ack.msgFind k (l ++ [(k, m)]) = some m := by
  rw [Ack.msgFind_append, h]; simp [Ack.msgFind]

theorem msgErase_snoc_self {k : Ack.Key} {m : Ack.Msg} {l : List (Ack.Key × Ack.Msg)} (h : Ack.msgFind k l = none) :
    Ack.msgErase k (l ++ [(k, m)]) = l := by
  induction l with
  | nil => simp [Ack.msgErase]
  | cons x rest ih =>
    obtain ⟨k', m'⟩ := x
    simp only [Ack.msgFind] at h
    split at h
    · cases h
    · rename_i hk
      simp only [List.cons_append, Ack.msgErase, hk, if_false, ih h]

theorem storedFind_snoc_self {k : Ack.Key} {st : Stored} {l : List (Ack.Key × Stored)} (h : storedFind k l = none) :
    storedFind k (l ++ [(k, st)]) = some st := by
  rw [storedFind_append, h]; simp [storedFind]

/-- resolving the exchange in flight: `resolveStep` (and `ackStep`, the callback not being an inbound one) takes the callback
    out and calls `onResolved` in a world that stores the callbacks of `w` again -/
theorem resolve_flight {w w' u : World} {sid : String} {mid : Int} {m : Ack.Msg} {st : Stored} (hF : Flight w w' sid mid m st)
    (hsf : storedFind (Ack.hashKey sid mid) (w.node 0).stored = none) (hi : 0 < u.nodes.length)
    (hu : (u.node 0).stored = (w'.node 0).stored) (b : Bool) (pt : Ack.PType) :
    ∃ v : World, resolveStep 0 u ⟨Ack.hashKey sid mid, b, pt⟩ = v.onResolved 0 ⟨Ack.hashKey sid mid, b, pt⟩ st ∧
      ((∀ s c pb im, st ≠ .inbound s c pb im) → ackStep 0 u ⟨Ack.hashKey sid mid, b, pt⟩ = v.onResolved 0 ⟨Ack.hashKey sid mid, b, pt⟩ st) ∧
      v.out = u.out ∧ v.nodes.length = u.nodes.length ∧ v.epoch = u.epoch ∧ (v.node 0).stored = (w.node 0).stored ∧
      (v.node 0).acks = (u.node 0).acks ∧ (v.node 0).pool = (u.node 0).pool ∧ (v.node 0).reg = (u.node 0).reg := by
  have hst : storedFind (Ack.hashKey sid mid) (u.node 0).stored = some st := by
    rw [hu, hF.stored]; exact storedFind_snoc_self hsf
  refine ⟨u.setNode 0 { u.node 0 with stored := storedErase (Ack.hashKey sid mid) (u.node 0).stored }, ?_, ?_, rfl,
    setNode_length _ _ _, rfl, ?_, ?_, ?_, ?_⟩
  · simp only [resolveStep, hst]
  · intro hinb
    -- the wildcard case of the `match` in `ackStep` is chosen with `hinb`
    simp only [ackStep, hst]
  · rw [node_setNode_self _ _ _ hi, hu, hF.stored]
    exact storedErase_snoc_self hsf
  · rw [node_setNode_self _ _ _ hi]
  · rw [node_setNode_self _ _ _ hi]
  · rw [node_setNode_self _ _ _ hi]

/-- the acknowledgement of the exchange in flight runs its callback in a world whose node 0 is back to `w`'s -/
theorem ackFrom_flight (w w' : World) (sid : String) (mid : Int) (m : Ack.Msg) (st : Stored) (kind : Ack.PType)
    (hF : Flight w w' sid mid m st) (hm : m.state = kind) (hlen : w.nodes.length = 1)
    (hinb : ∀ s c pb im, st ≠ .inbound s c pb im)
    (hfresh : Ack.msgFind (Ack.hashKey sid mid) (w.node 0).acks.msgs = none)
    (hsf : storedFind (Ack.hashKey sid mid) (w.node 0).stored = none) :
    ∃ v : World, w'.ackFrom 0 sid kind mid = v.onResolved 0 ⟨Ack.hashKey sid mid, false, m.stored⟩ st ∧
      v.out = w'.out ∧ v.nodes.length = w.nodes.length ∧ v.epoch = w.epoch ∧ (v.node 0).stored = (w.node 0).stored ∧
      (v.node 0).acks.msgs = (w.node 0).acks.msgs ∧ (v.node 0).pool = (IdPool.get (w.node 0).pool).1 ∧
      (v.node 0).reg = (w'.node 0).reg := by
  have hi : 0 < w'.nodes.length := by rw [hF.len]; omega
  have hfind : Ack.msgFind (Ack.hashKey sid mid) (w'.node 0).acks.msgs = some m := by
    rw [hF.msgs]; exact msgFind_snoc_self hfresh
  rw [ackFrom_eq, Ack.ack_ok_eq hfind hm]
  simp only [List.foldl_cons, List.foldl_nil]
  generalize hwu : w'.setNode 0 _ = u
  have hus : (u.node 0).stored = (w'.node 0).stored := by rw [← hwu, node_setNode_self _ _ _ hi]
  have hua : (u.node 0).acks.msgs = Ack.msgErase (Ack.hashKey sid mid) (w'.node 0).acks.msgs := by
    rw [← hwu, node_setNode_self _ _ _ hi]
  have hup : (u.node 0).pool = (w'.node 0).pool := by rw [← hwu, node_setNode_self _ _ _ hi]
  have hur : (u.node 0).reg = (w'.node 0).reg := by rw [← hwu, node_setNode_self _ _ _ hi]
  obtain ⟨v, _, hack, hout, hl, hep, hs, ha, hp, hr⟩ := resolve_flight hF hsf (u := u) (by rw [← hwu, setNode_length]; exact hi)
    hus false m.stored
  refine ⟨v, hack hinb, by rw [hout, ← hwu]; rfl, by rw [hl, ← hwu, setNode_length, hF.len], by rw [hep, ← hwu]; exact hF.epoch,
    hs, ?_, by rw [hp, hup]; exact hF.pool, hr.trans hur⟩
  rw [ha, hua, hF.msgs]
  exact msgErase_snoc_self hfresh

/-- which packet ends which exchange: PUBACK the QoS 1 PUBLISH, PUBCOMP the PUBREL -/
def Ends (sid : String) (mid : Int) (pkt : CPkt) (kind : Ack.PType) (st : Stored) : Prop :=
  (pkt = .puback mid ∧ kind = .puback ∧ ∃ t pl rt d, st = .out1 sid t pl rt d mid) ∨
  (pkt = .pubcomp mid ∧ kind = .pubcomp ∧ st = .rel sid mid)

theorem ends_puback (sid t pl : String) (rt d : Bool) (mid : Int) :
    Ends sid mid (.puback mid) .puback (.out1 sid t pl rt d mid) := .inl ⟨rfl, rfl, t, pl, rt, d, rfl⟩

theorem ends_pubcomp (sid : String) (mid : Int) : Ends sid mid (.pubcomp mid) .pubcomp (.rel sid mid) := .inr ⟨rfl, rfl, rfl⟩

theorem ack_flight {w w' : World} {sid : String} {mid : Int} {m : Ack.Msg} {st : Stored} {pkt : CPkt} {kind : Ack.PType}
    (he : Ends sid mid pkt kind st) (hF : Flight w w' sid mid m st) (hm : m.state = kind) (hlen : w.nodes.length = 1)
    (hsess : ((w'.node 0).sess sid).isSome = true)
    (hfresh : Ack.msgFind (Ack.hashKey sid mid) (w.node 0).acks.msgs = none)
    (hsf : storedFind (Ack.hashKey sid mid) (w.node 0).stored = none) :
    ((w'.process 0 sid pkt).1.node 0).acks.msgs = (w.node 0).acks.msgs ∧
    ((w'.process 0 sid pkt).1.node 0).pool = IdPool.put (IdPool.get (w.node 0).pool).1 mid ∧
    (w'.process 0 sid pkt).1.out = w'.out := by
  obtain ⟨s', hs'⟩ := Option.isSome_iff_exists.mp hsess
  have hinb : ∀ s c pb im, st ≠ .inbound s c pb im := by
    rcases he with ⟨_, _, _, _, _, _, rfl⟩ | ⟨_, _, rfl⟩ <;> exact fun _ _ _ _ h => nomatch h
  obtain ⟨v, hv, hout, hl, _, _, ha, hp, _⟩ := ackFrom_flight w w' sid mid m st kind hF hm hlen hinb hfresh hsf
  have hpr : w'.process 0 sid pkt = (v.poolPut 0 mid, .ok) := by
    rcases he with ⟨rfl, rfl, _, _, _, _, rfl⟩ | ⟨rfl, rfl, rfl⟩
    · rw [process_puback hs', hv]; simp [World.onResolved]
    · rw [process_pubcomp hs', hv]; simp [World.onResolved]
  rw [hpr]
  unfold World.poolPut
  dsimp only
  rw [node_setNode_self _ _ _ (by omega), hp]
  exact ⟨ha, rfl, hout⟩

theorem expireKeys_nil (ks : List Ack.Key) : Ack.expireKeys ks [] = ([], []) := by
  induction ks with
  | nil => rfl
  | cons k rest ih => simp [Ack.expireKeys, Ack.msgFind, ih]

theorem expireKeys_single {k : Ack.Key} {m : Ack.Msg} (ks : List Ack.Key) (hk : k ∈ ks) :
    Ack.expireKeys ks [(k, m)] = ([], [⟨k, true, m.stored⟩]) := by
  induction ks with
  | nil => cases hk
  | cons k' rest ih =>
    by_cases e : k' = k
    · subst e
      simp [Ack.expireKeys, Ack.msgFind, Ack.msgErase, expireKeys_nil]
    · have hk' : k ∈ rest := by
        rcases List.mem_cons.1 hk with h | h
        · exact absurd h.symm e
        · exact h
      have e' : ¬ k = k' := fun h => e h.symm
      simp [Ack.expireKeys, Ack.msgFind, e', ih hk']

/-- the sweep of an otherwise idle node resolves exactly the one exchange in flight, as expired -/
theorem sweep_flight (w w' : World) (sid : String) (mid : Int) (m : Ack.Msg) (st : Stored)
    (hF : Flight w w' sid mid m st) (hlen : w.nodes.length = 1)
    (hq : Ack.QInv (w'.node 0).acks) (hd : m.deadline = (w.epoch : Int) * 10000 + 3000)
    (hidle : (w.node 0).acks.msgs = [])
    (hsf : storedFind (Ack.hashKey sid mid) (w.node 0).stored = none) :
    ∃ w1 : World, w'.sweep 0 = w1.onResolved 0 ⟨Ack.hashKey sid mid, true, m.stored⟩ st ∧
      w1.out = w'.out ∧ 0 < w1.nodes.length ∧ (w1.node 0).reg = (w'.node 0).reg ∧ (w1.node 0).acks.msgs = [] := by
  have hi : 0 < w'.nodes.length := by rw [hF.len]; omega
  have hmsgs : (w'.node 0).acks.msgs = [(Ack.hashKey sid mid, m)] := by
    rw [hF.msgs, hidle]; rfl
  have hm : Ack.msgFind (Ack.hashKey sid mid) (w'.node 0).acks.msgs = some m := by
    rw [hmsgs]; simp [Ack.msgFind]
  have hk : Ack.hashKey sid mid ∈ (Ack.pqExpire (((w'.epoch : Int) + 1) * 10000) (w'.node 0).acks.timeouts).2 := by
    refine (hq.mem_expired_keys _ _).mpr ⟨_, hm, ?_⟩
    rw [hF.epoch, hd]
    exact Int.lt_of_le_of_lt (Ack.roundSec_bounds _).2
      (show ((w.epoch : Int) * 10000 + 3000) + 500 < ((w.epoch : Int) + 1) * 10000 by omega)
  have hexp : Ack.expire (w'.node 0).acks (((w'.epoch : Int) + 1) * 10000) =
      ({ msgs := [], timeouts := (w'.node 0).acks.timeouts.filter (fun kb => !decide (kb.1 < ((w'.epoch : Int) + 1) * 10000)) },
       [⟨Ack.hashKey sid mid, true, m.stored⟩]) := by
    rw [Ack.expire_eq, hmsgs, expireKeys_single _ hk]
  rw [sweep_eq, hexp]
  simp only [List.foldl_cons, List.foldl_nil]
  generalize hwu : World.setNode _ 0 _ = u
  have hiu : 0 < u.nodes.length := by rw [← hwu, setNode_length]; exact hi
  have hnu : ∀ n, (World.setNode { w' with epoch := w'.epoch + 1 } 0 n).node 0 = n := fun n => node_setNode_self _ 0 n hi
  obtain ⟨v, hv, _, hout, hl, _, _, ha, _, hr⟩ := resolve_flight hF hsf hiu (by rw [← hwu, hnu]) true m.stored
  exact ⟨v, hv, by rw [hout, ← hwu]; rfl, by rw [hl]; exact hiu, by rw [hr, ← hwu, hnu], by rw [ha, ← hwu, hnu]⟩

/-- silence after the PUBLISH: the sweep writes it again, under the same identifier -/
theorem sweep_out {q : Int} {qn : Nat} {ack : Ack.PType} {mk : String → String → String → Bool → Bool → Int → Stored}
    (hk : OutKind q qn ack mk) (w w' : World) (sid t pl : String) (rt d : Bool) (mid : Int) (m : Ack.Msg)
    (hF : Flight w w' sid mid m (mk sid t pl rt d mid)) (hlen : w.nodes.length = 1)
    (hq : Ack.QInv (w'.node 0).acks) (hd : m.deadline = (w.epoch : Int) * 10000 + 3000)
    (s' : Sess) (hs' : (w'.node 0).sess sid = some s') (hmid : mid ≠ 0)
    (hidle : (w.node 0).acks.msgs = [])
    (hsf : storedFind (Ack.hashKey sid mid) (w.node 0).stored = none) :
    (w'.sweep 0).out = w'.out ++ [(s'.conn, .publish t pl qn rt d mid)] := by
  obtain ⟨w1, hsw, hout1, hi1, hreg1, hmsgs1⟩ := sweep_flight w w' sid mid m _ hF hlen hq hd hidle hsf
  have hs1 : (w1.node 0).sess sid = some s' := by
    simp only [Node.sess, hreg1]; exact hs'
  have hr : w1.onResolved 0 ⟨Ack.hashKey sid mid, true, m.stored⟩ (mk sid t pl rt d mid) =
      w1.armAndSend 0 (mk sid t pl rt d mid) := by
    rcases hk with ⟨_, _, _, rfl⟩ | ⟨_, _, _, rfl⟩ <;> simp [World.onResolved, hs1]
  rw [hsw, hr, (armAndSend_sentG (hk.arm sid t pl rt d mid) hk.expected hi1 hs1 hmid (by rw [hmsgs1]; rfl)).2, hout1]

end Wasp.Broker.AgentT12
