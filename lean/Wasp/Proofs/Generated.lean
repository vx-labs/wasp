import Wasp.Generated.Translated
import Wasp.Model.Topic
/-! The tie (a): the definitions REGENERATED from the Go source on every run coincide with
    the hand-written model definitions the theorems use. A changed operator in the Go
    source changes `Wasp.Generated.*`, and these equations stop type-checking. -/
namespace Wasp.Tie
open Wasp

theorem indexByte_nonneg_or (t : List Char) (c : Char) : Go.indexByte t c = -1 ∨ 0 ≤ Go.indexByte t c := by
  cases t with
  | nil => exact Or.inl rfl
  | cons a as =>
    unfold Go.indexByte
    split
    · exact Or.inr (Int.le_refl 0)
    · simp only []
      split
      · exact Or.inl rfl
      · next h => exact Or.inr (Int.add_nonneg (Int.not_lt.1 h) (by decide))

/-- format.Topic.Next as translated from the source = the model's `Topic.next` -/
theorem topicNext_eq (t : List Char) : Generated.topicNext t = Topic.next t := by
  induction t with
  | nil => rfl
  | cons c cs ih =>
    unfold Generated.topicNext at ih ⊢
    unfold Topic.next
    by_cases hc : c = '/'
    · subst hc
      simp [Go.indexByte, Go.sliceFrom, Go.sliceTo]
    · rw [← ih]
      simp only [Go.indexByte, hc, if_false]
      -- the index in the tail is -1 (no separator: none in `c :: cs` either) or a position `n` (then `n + 1`)
      rcases indexByte_nonneg_or cs '/' with h | h
      · simp [h]
      · obtain ⟨n, hn⟩ := Int.eq_ofNat_of_zero_le h
        have h0 : ¬ (n : Int) < 0 := Int.not_lt.2 (Int.natCast_nonneg n)
        have h1 : ¬ (n : Int) + 1 < 0 := Int.not_lt.2 (Int.natCast_nonneg (n + 1))
        simp only [hn, h0, h1, if_false, decide_false, Bool.false_eq_true, Go.sliceFrom, Go.sliceTo]
        rfl

/-- sessions.trimMountPoint as translated = dropping the mount point and one separator -/
theorem trimMountPoint_eq (mp t : String) :
    String.ofList (Generated.trimMountPoint mp.toList t.toList) = Topic.trimMountPoint mp t := by
  simp [Generated.trimMountPoint, Topic.trimMountPoint, Go.sliceFrom, Go.len]
  congr 1

end Wasp.Tie
