import Wasp.Generated.SessionMountLit
import Wasp.Generated.Translated
import Wasp.Model.Topic
import Wasp.Proofs.GoLit
/-!
# `sessions.prefixMountPoint` AS WRITTEN (make + copy + one byte + copy)

`Wasp.Generated.SessionMountLit.prefixMountPoint` is regenerated from `wasp/sessions/session.go`:
`make([]byte, n)` is `n` zero bytes (guard `0 ≤ n`), each `copy(out[a:b], src)` overwrites the first
`min (b - a) (len src)` cells of the window (window guarded), `out[len(mountPoint)] = '/'` is guarded.
The code never panics and yields `mountPoint ++ '/' :: t`, the model's `Topic.prefixMountPoint`;
the translated `trimMountPoint` undoes it.
-/
namespace Wasp.SessionMountLit
open Wasp.Generated.SessionMountLit

theorem copyAt_spec {α : Type} (pre mid post src : List α) (lo n : Int) (hlo : lo = (pre.length : Int))
    (hn : n = (mid.length : Int)) (hs : src.length = mid.length) :
    Go.copyAt (pre ++ mid ++ post) lo n src = pre ++ src ++ post := by
  subst hlo hn
  have h1 : List.take pre.length (pre ++ (mid ++ post)) = pre := List.take_left' rfl
  have h2 : List.drop (pre.length + src.length) (pre ++ mid ++ post) = post :=
    List.drop_left' (by simp [hs])
  simp only [Go.copyAt, Int.toNat_natCast, ← hs, Nat.min_self, List.take_length, h2]
  rw [List.append_assoc pre mid post, h1]

theorem prefixMountPoint_eq (mp t : List Char) :
    prefixMountPoint mp t = some (mp ++ '/' :: t) := by
  -- the buffer is kept in the shape `pre ++ mid ++ post`, where a `copy` replaces `mid` (`copyAt_spec`):
  -- `[] ++ zeros mp.length ++ zeros (t.length + 1)`, then `(mp ++ ['/']) ++ zeros t.length ++ []`
  let z : Char := Char.ofNat 0
  have hlen : Go.len t + Go.len mp + 1 = ((mp.length + (t.length + 1) : Nat) : Int) := by
    simp only [Go.len_eq]; omega
  have hmk : Go.makeBytes ((mp.length + (t.length + 1) : Nat) : Int)
      = [] ++ List.replicate mp.length z ++ List.replicate (t.length + 1) z := by
    show List.replicate ((mp.length + (t.length + 1) : Nat) : Int).toNat (Char.ofNat 0) = _
    rw [Int.toNat_natCast]
    simp [List.replicate_append_replicate, z]
  have hg0 : Go.le (0 : Int) ((mp.length + (t.length + 1) : Nat) : Int) = true :=
    (Go.le_iff _ _).2 (Int.natCast_nonneg _)
  have hok1 : Go.sliceToOk ([] ++ List.replicate mp.length z ++ List.replicate (t.length + 1) z) (Go.len mp) = true := by
    rw [Go.sliceToOk_iff]; exact ⟨Int.natCast_nonneg _, Int.ofNat_le.2 (by simp)⟩
  have hw1 : Go.len (Go.sliceTo ([] ++ List.replicate mp.length z ++ List.replicate (t.length + 1) z) (Go.len mp))
      = ((List.replicate mp.length z).length : Int) := by
    simp [Go.len, Go.sliceTo]
  have hc1 := copyAt_spec [] (List.replicate mp.length z) (List.replicate (t.length + 1) z) mp (0 : Int) _ rfl hw1
    (by simp)
  have hout1 : ([] ++ mp ++ List.replicate (t.length + 1) z) = mp ++ z :: List.replicate t.length z := by
    simp [List.replicate_succ]
  have hr : Go.inRange (mp ++ z :: List.replicate t.length z) (Go.len mp) = true :=
    Go.inRange_append_length mp z _
  have hset : Go.set (mp ++ z :: List.replicate t.length z) (Go.len mp) '/'
      = (mp ++ ['/']) ++ List.replicate t.length z ++ [] := by
    simp [Go.len, Go.set]
  have hok2 : Go.sliceFromOk ((mp ++ ['/']) ++ List.replicate t.length z ++ []) (Go.len mp + 1) = true := by
    rw [Go.sliceFromOk_iff]; exact ⟨Int.natCast_nonneg (mp.length + 1), Int.ofNat_le.2 (by simp)⟩
  have hw2 : Go.len (Go.sliceFrom ((mp ++ ['/']) ++ List.replicate t.length z ++ []) (Go.len mp + 1))
      = ((List.replicate t.length z).length : Int) := by
    have e : (Go.len mp + 1).toNat = (mp ++ ['/']).length := by simp [Go.len]
    simp only [Go.sliceFrom, e, List.append_assoc]
    simp [Go.len]
  have hc2 := copyAt_spec (mp ++ ['/']) (List.replicate t.length z) [] t (Go.len mp + 1) _
    (by simp [Go.len]) hw2 (by simp)
  simp only [prefixMountPoint, hlen, hg0, if_true, hmk, hok1, hc1, hout1, hr, hset, hok2, hc2]
  simp

/-- the round trip with the translated `trimMountPoint` (Wasp/Generated/Translated.lean) -/
theorem trim_prefixMountPoint (mp t r : List Char) (h : prefixMountPoint mp t = some r) :
    Wasp.Generated.trimMountPoint mp r = t := by
  rw [prefixMountPoint_eq] at h
  cases h
  have e : (Go.len mp + 1).toNat = (mp ++ ['/']).length := by simp [Go.len]
  have : mp ++ '/' :: t = (mp ++ ['/']) ++ t := by simp
  simp only [Wasp.Generated.trimMountPoint, Go.sliceFrom, e, this, List.drop_left' rfl]

/-- the model's `prefixMountPoint` (on `String`s) is the code as written, read on characters -/
theorem prefixMountPoint_is_model (mp t : String) :
    prefixMountPoint mp.toList t.toList = some (Wasp.Topic.prefixMountPoint mp t).toList := by
  rw [prefixMountPoint_eq]
  simp [Wasp.Topic.prefixMountPoint]

end Wasp.SessionMountLit
