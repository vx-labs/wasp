import Wasp.Model.GoPrelude
/-! Facts about the Go primitives of the imperative subset (`Go.search`, `Go.forallBelow`,
    `Go.index`, …) used by the proofs that tie the literal translations
    (Wasp/Generated/*Lit.lean) to the hand-written models. -/
namespace Go

theorem lt_iff (a b : Int) : lt a b = true ↔ a < b := by simp [lt]
theorem le_iff (a b : Int) : le a b = true ↔ a ≤ b := by simp [le]
theorem gt_iff (a b : Int) : gt a b = true ↔ b < a := by simp [gt]
theorem ge_iff (a b : Int) : ge a b = true ↔ b ≤ a := by simp [ge]
theorem eq_iff {α : Type} [DecidableEq α] (a b : α) : eq a b = true ↔ a = b := by simp [eq]
theorem ne_iff {α : Type} [DecidableEq α] (a b : α) : ne a b = true ↔ a ≠ b := by simp [ne]

theorem len_eq {α : Type} (l : List α) : Go.len l = (l.length : Int) := rfl

theorem toNat_len_sub_one {α : Type} (l : List α) : (len l - 1).toNat = l.length - 1 :=
  Int.toNat_sub l.length 1

/-- the condition of `for i := 0; i < len(l); i++` at an element of `l` -/
theorem lt_len_append_length {α : Type} (pre : List α) (x : α) (rest : List α) :
    lt (pre.length : Int) (len (pre ++ x :: rest)) = true := by
  rw [lt_iff, len_eq, List.length_append, List.length_cons]; omega

theorem lt_len_length {α : Type} (l : List α) : lt (l.length : Int) (len l) = false := by
  simp [lt, len]

theorem mid_bounds {i j : Int} (h : i < j) : i ≤ (i + j) / 2 ∧ (i + j) / 2 < j := by omega

/-- The loop of sort.Search with two invariants: `A` holds of the lower end (which moves behind a probe that
    fails), `B` of the upper end (which moves to a probe that holds). With enough fuel the ends meet, so both
    hold of the answer. -/
theorem searchLoop_inv (f : Int → Bool) (A B : Int → Prop) (lo hi : Int)
    (hA : ∀ h, lo ≤ h → h < hi → f h = false → A (h + 1)) (hB : ∀ h, lo ≤ h → h < hi → f h = true → B h) :
    ∀ (fuel : Nat) (i j : Int), lo ≤ i → i ≤ j → j ≤ hi → j - i < fuel → A i → B j →
      A (searchLoop f fuel i j) ∧ B (searchLoop f fuel i j) := by
  intro fuel
  induction fuel with
  | zero => intro i j _ _ _ hf; omega
  | succ fuel ih =>
    intro i j hlo hij hhi hf hi hj
    unfold searchLoop
    by_cases hlt : i < j
    · have hm := mid_bounds hlt
      simp only [hlt, if_true]
      generalize (i + j) / 2 = m at hm ⊢
      cases hfm : f m with
      | false => exact ih _ j (by omega) (by omega) hhi (by omega) (hA m (by omega) (by omega) hfm) hj
      | true => exact ih i m hlo hm.1 (by omega) (by omega) hi (hB m (by omega) (by omega) hfm)
    · simp only [hlt, if_false]
      cases Int.le_antisymm hij (Int.not_lt.1 hlt)
      exact ⟨hi, hj⟩

/-- binary search over a predicate that is false below `k` and true from `k` on finds `k` -/
theorem search_partition (n : Int) (f : Int → Bool) (k : Int) (h0 : 0 ≤ k) (hn : k ≤ n)
    (hlo : ∀ x, 0 ≤ x → x < k → f x = false) (hhi : ∀ x, k ≤ x → x < n → f x = true) :
    search n f = k := by
  have h := searchLoop_inv f (· ≤ k) (k ≤ ·) 0 n
    (fun x _ hx hf => Int.not_le.1 fun hk => by rw [hhi x hk hx] at hf; cases hf)
    (fun x hx _ hf => Int.not_lt.1 fun hk => by rw [hlo x hx hk] at hf; cases hf)
    (n.toNat + 1) 0 n (Int.le_refl 0) (Int.le_trans h0 hn) (Int.le_refl n) (by omega) h0 hn
  exact Int.le_antisymm h.1 h.2

theorem forallBelow_iff (n : Int) (p : Int → Bool) :
    forallBelow n p = true ↔ ∀ i, 0 ≤ i → i < n → p i = true := by
  simp only [forallBelow, List.all_eq_true, List.mem_range]
  constructor
  · intro h i h0 hi
    obtain ⟨k, rfl⟩ := Int.eq_ofNat_of_zero_le h0
    exact h k (Int.lt_toNat.2 hi)
  · intro h k hk
    exact h k (Int.natCast_nonneg k) (Int.lt_toNat.1 hk)

theorem inRange_iff {α : Type} (l : List α) (i : Int) :
    inRange l i = true ↔ 0 ≤ i ∧ i < (l.length : Int) := by
  simp [inRange, len]

theorem index_natCast {α : Type} [Inhabited α] (l : List α) (k : Nat) :
    index l (k : Int) = l[k]?.getD default := by
  simp [index]

theorem set_natCast {α : Type} (l : List α) (k : Nat) (v : α) : set l (k : Int) v = l.set k v := by
  simp [set]

theorem sliceFrom_natCast {α : Type} (l : List α) (k : Nat) : sliceFrom l (k : Int) = l.drop k := by
  simp [sliceFrom]

theorem sliceTo_natCast {α : Type} (l : List α) (k : Nat) : sliceTo l (k : Int) = l.take k := by
  simp [sliceTo]

theorem sliceFromOk_iff {α : Type} (l : List α) (i : Int) :
    sliceFromOk l i = true ↔ 0 ≤ i ∧ i ≤ (l.length : Int) := by
  simp [sliceFromOk, len]

theorem sliceToOk_iff {α : Type} (l : List α) (i : Int) :
    sliceToOk l i = true ↔ 0 ≤ i ∧ i ≤ (l.length : Int) := by
  simp [sliceToOk, len]

theorem index_mem {α : Type} [Inhabited α] (l : List α) (i : Int) (h0 : 0 ≤ i) (h : i < (l.length : Int)) :
    index l i ∈ l := by
  obtain ⟨k, rfl⟩ := Int.eq_ofNat_of_zero_le h0
  have hk : k < l.length := Int.ofNat_lt.1 h
  rw [index_natCast, List.getElem?_eq_getElem hk]
  exact List.getElem_mem hk

theorem index_append_left {α : Type} [Inhabited α] (pre rest : List α) (i : Int) (h0 : 0 ≤ i)
    (h : i < (pre.length : Int)) : index (pre ++ rest) i = index pre i := by
  obtain ⟨k, rfl⟩ := Int.eq_ofNat_of_zero_le h0
  rw [index_natCast, index_natCast, List.getElem?_append_left (Int.ofNat_lt.1 h)]

theorem index_append_right {α : Type} [Inhabited α] (pre rest : List α) (i : Int)
    (h : (pre.length : Int) ≤ i) : index (pre ++ rest) i = index rest (i - pre.length) := by
  obtain ⟨k, rfl⟩ := Int.eq_ofNat_of_zero_le (Int.le_trans (Int.natCast_nonneg _) h)
  have hk : pre.length ≤ k := Int.ofNat_le.1 h
  rw [← Int.ofNat_sub hk, index_natCast, index_natCast, List.getElem?_append_right hk]

/-- sort.Search over a slice whose elements fail `p` on a prefix and satisfy it on the rest
    answers the length of that prefix -/
theorem search_append {α : Type} [Inhabited α] (p : α → Bool) (pre rest : List α)
    (h1 : ∀ x ∈ pre, p x = false) (h2 : ∀ x ∈ rest, p x = true) :
    search (len (pre ++ rest)) (fun i => p (index (pre ++ rest) i)) = (pre.length : Int) := by
  apply search_partition
  · omega
  · simp only [len, List.length_append]; omega
  · intro x hx0 hx
    rw [index_append_left _ _ _ hx0 hx]
    exact h1 _ (index_mem _ _ hx0 hx)
  · intro x hx hxn
    simp only [len, List.length_append] at hxn
    rw [index_append_right _ _ _ hx]
    exact h2 _ (index_mem _ _ (by omega) (by omega))

/-- what `search_append` asks of a slice sorted by `key` -/
theorem exists_partition {α : Type} (key : α → Int) (d : Int) {l : List α}
    (h : l.Pairwise fun x y => key x ≤ key y) :
    ∃ pre rest, l = pre ++ rest ∧ (∀ x ∈ pre, key x < d) ∧ (∀ x ∈ rest, d ≤ key x) := by
  induction l with
  | nil => exact ⟨[], [], rfl, fun _ hy => absurd hy List.not_mem_nil, fun _ hy => absurd hy List.not_mem_nil⟩
  | cons x r ih =>
    obtain ⟨h1, h2⟩ := List.pairwise_cons.mp h
    by_cases hx : key x < d
    · obtain ⟨pre, rest, e, hp, hr⟩ := ih h2
      refine ⟨x :: pre, rest, by rw [e]; rfl, fun y hy => ?_, hr⟩
      rcases List.mem_cons.mp hy with rfl | hy
      · exact hx
      · exact hp y hy
    · refine ⟨[], x :: r, rfl, fun _ hy => absurd hy List.not_mem_nil, fun y hy => ?_⟩
      rcases List.mem_cons.mp hy with rfl | hy
      · exact Int.not_lt.mp hx
      · exact Int.le_trans (Int.not_lt.mp hx) (h1 y hy)

/-! ### strings -/

theorem strLt_iff (a b : String) : strLt a b = true ↔ a < b := by simp [strLt]
theorem strLe_iff (a b : String) : strLe a b = true ↔ a ≤ b := by simp [strLe]
theorem strGt_iff (a b : String) : strGt a b = true ↔ b < a := by simp [strGt]
theorem strGe_iff (a b : String) : strGe a b = true ↔ b ≤ a := by simp [strGe]

/-- `strings.Compare(a, b) == -1` says `a < b` -/
theorem strCompare_neg_one_iff (a b : String) : strCompare a b = -1 ↔ a < b := by
  unfold strCompare
  by_cases h : a = b
  · subst h; simp [String.lt_irrefl]
  · by_cases h2 : a < b <;> simp [h, h2]

/-- Go's order on strings is the byte-wise one; Lean's is the lexicographic order of the code points -/
theorem str_lt_iff_toList (a b : String) : a < b ↔ a.toList < b.toList := Iff.rfl

/-! ### the last element of a slice that was just appended to -/

theorem inRange_append_last {α : Type} (l : List α) (x : α) :
    inRange (l ++ [x]) (len (l ++ [x]) - 1) = true := by
  rw [inRange_iff]; simp only [len, List.length_append, List.length_singleton]; omega

theorem index_append_last {α : Type} [Inhabited α] (l : List α) (x : α) :
    index (l ++ [x]) (len (l ++ [x]) - 1) = x := by
  simp [index]

theorem set_append_last {α : Type} (l : List α) (x v : α) :
    set (l ++ [x]) (len (l ++ [x]) - 1) v = l ++ [v] := by
  simp [set]

theorem index_append_length {α : Type} [Inhabited α] (pre : List α) (x : α) (rest : List α) :
    index (pre ++ x :: rest) (pre.length : Int) = x := by
  simp [index]

theorem inRange_append_length {α : Type} (pre : List α) (x : α) (rest : List α) :
    inRange (pre ++ x :: rest) (pre.length : Int) = true := by
  rw [inRange_iff]; simp only [List.length_append, List.length_cons]; omega

theorem set_append_length {α : Type} (pre : List α) (x v : α) (rest : List α) :
    set (pre ++ x :: rest) (pre.length : Int) v = pre ++ v :: rest := by
  rw [set_natCast, List.set_append_right _ _ (Nat.le_refl _), Nat.sub_self, List.set_cons_zero]

theorem sliceTo_append_length {α : Type} (pre rest : List α) : sliceTo (pre ++ rest) (pre.length : Int) = pre := by
  rw [sliceTo_natCast, List.take_left']
  rfl

theorem sliceFrom_append_length {α : Type} (pre rest : List α) : sliceFrom (pre ++ rest) (pre.length : Int) = rest := by
  rw [sliceFrom_natCast, List.drop_left']
  rfl

theorem sliceToOk_append_length {α : Type} (pre rest : List α) : sliceToOk (pre ++ rest) (pre.length : Int) = true := by
  rw [sliceToOk_iff, List.length_append]; omega

theorem sliceFromOk_append_length {α : Type} (pre rest : List α) : sliceFromOk (pre ++ rest) (pre.length : Int) = true := by
  rw [sliceFromOk_iff, List.length_append]; omega

/-- with `length_succ_eq`, turns a fact at index `pre.length` into one at `pre.length + 1` -/
theorem append_cons_eq {α : Type} (pre : List α) (x : α) (rest : List α) :
    pre ++ x :: rest = (pre ++ [x]) ++ rest := by
  rw [List.append_assoc]; rfl

theorem length_succ_eq {α : Type} (pre : List α) (x : α) :
    (pre.length : Int) + 1 = ((pre ++ [x]).length : Int) := by
  rw [List.length_append]; rfl

theorem index_append_length_succ {α : Type} [Inhabited α] (pre : List α) (x y : α) (rest : List α) :
    index (pre ++ x :: y :: rest) ((pre.length : Int) + 1) = y := by
  rw [append_cons_eq pre x _, length_succ_eq pre x, index_append_length]

theorem inRange_append_length_succ {α : Type} (pre : List α) (x y : α) (rest : List α) :
    inRange (pre ++ x :: y :: rest) ((pre.length : Int) + 1) = true := by
  rw [append_cons_eq pre x _, length_succ_eq pre x, inRange_append_length]

theorem set_append_length_succ {α : Type} (pre : List α) (x y v : α) (rest : List α) :
    set (pre ++ x :: y :: rest) ((pre.length : Int) + 1) v = pre ++ x :: v :: rest := by
  rw [append_cons_eq pre x _, length_succ_eq pre x, set_append_length, List.append_assoc]
  rfl

theorem sliceTo_append_length_succ {α : Type} (pre : List α) (x : α) (rest : List α) :
    sliceTo (pre ++ x :: rest) ((pre.length : Int) + 1) = pre ++ [x] := by
  rw [append_cons_eq pre x _, length_succ_eq pre x, sliceTo_append_length]

theorem sliceFrom_append_length_succ {α : Type} (pre : List α) (x : α) (rest : List α) :
    sliceFrom (pre ++ x :: rest) ((pre.length : Int) + 1) = rest := by
  rw [append_cons_eq pre x _, length_succ_eq pre x, sliceFrom_append_length]

theorem sliceToOk_append_length_succ {α : Type} (pre : List α) (x : α) (rest : List α) :
    sliceToOk (pre ++ x :: rest) ((pre.length : Int) + 1) = true := by
  rw [append_cons_eq pre x _, length_succ_eq pre x, sliceToOk_append_length]

theorem sliceFromOk_append_length_succ {α : Type} (pre : List α) (x : α) (rest : List α) :
    sliceFromOk (pre ++ x :: rest) ((pre.length : Int) + 1) = true := by
  rw [append_cons_eq pre x _, length_succ_eq pre x, sliceFromOk_append_length]

theorem gt_natCast_succ_zero (n : Nat) : gt ((n : Int) + 1) 0 = true := by
  rw [gt_iff]; omega

theorem lt_succ_len_append_cons {α : Type} (pre : List α) (x y : α) (rest : List α) :
    lt ((pre.length : Int) + 1) (len (pre ++ x :: y :: rest)) = true := by
  rw [append_cons_eq pre x _, length_succ_eq pre x, lt_len_append_length]

theorem lt_succ_len_append_singleton {α : Type} (pre : List α) (x : α) :
    lt ((pre.length : Int) + 1) (len (pre ++ [x])) = false := by
  rw [length_succ_eq pre x, lt_len_length]

theorem sortStableBy_append_singleton {α : Type} (less : α → α → Bool) (l : List α) (x : α) :
    sortStableBy less (l ++ [x]) = l.foldr (insertBy less) [x] := by
  simp [sortStableBy, List.foldr_append, insertBy]

/-- inserting an element that no element of the list is less than puts it in front -/
theorem insertBy_front {α : Type} (less : α → α → Bool) (x : α) (l : List α)
    (h : ∀ y ∈ l, less y x = false) : insertBy less x l = x :: l := by
  cases l with
  | nil => rfl
  | cons y ys => simp [insertBy, h y (by simp)]

end Go
