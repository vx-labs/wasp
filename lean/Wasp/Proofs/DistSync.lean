import Wasp.Model.Dist
import Wasp.Proofs.Dist
/-! Helper lemmas for C09 (broadcast completeness) and C10 (full-state exchange).
    `x_sy` is the fact `x` of Proofs/Dist.lean in the form used here (`pick` for a fold, other argument order). -/
namespace Wasp.Dist
open Wasp.Crdt Wasp.Topic

/-! ### stamps -/

theorem isOutdated_eq_sy (l r : Stamp) : isOutdated l r = decide (lastUpdate l < lastUpdate r) :=
  isOutdated_eq l r

/-- last-writer-wins choice between an incoming entry and the locally stored one -/
def pick {α : Type} (ts : α → Int) : Option α → Option α → Option α
  | none, l => l
  | some a, none => some a
  | some a, some b => if ts b < ts a then some a else some b

theorem pick_none_right {α : Type} (ts : α → Int) (a : Option α) : pick ts a none = a := by
  cases a <;> rfl

theorem pick_symm {α : Type} (ts : α → Int) (x y : Option α)
    (h : ∀ a b, x = some a → y = some b → ts a = ts b → a = b) : pick ts y x = pick ts x y := by
  cases x with
  | none => cases y <;> rfl
  | some a =>
    cases y with
    | none => rfl
    | some b =>
      show (if ts a < ts b then some b else some a) = if ts b < ts a then some a else some b
      rcases Int.lt_trichotomy (ts a) (ts b) with hlt | heq | hgt
      · rw [if_pos hlt, if_neg (Int.not_lt.mpr (Int.le_of_lt hlt))]
      · rw [heq, if_neg (Int.lt_irrefl _), if_neg (Int.lt_irrefl _), h a b rfl rfl heq]
      · rw [if_neg (Int.not_lt.mpr (Int.le_of_lt hgt)), if_pos hgt]

theorem pick_newer {α : Type} (ts : α → Int) (a : α) (y : Option α)
    (h : ∀ b, y = some b → ts b < ts a) : pick ts (some a) y = some a := by
  cases y with
  | none => rfl
  | some b => exact if_pos (h b rfl)

theorem pick_keeps {α : Type} (ts : α → Int) (x : Option α) (b : α)
    (h : ∀ a, x = some a → ts a ≤ ts b) : pick ts x (some b) = some b := by
  cases x with
  | none => rfl
  | some a => exact if_neg (Int.not_lt.mpr (h a rfl))

theorem lwwFold_filter_unique {α : Type} (ts : α → Int) (q : α → Prop) [DecidablePred q] (l : List α)
    (h : l.Pairwise (fun x y => ¬ (q x ∧ q y))) (cur : Option α) :
    lwwFold ts cur (l.filter (fun s => q s)) = pick ts (l.find? (fun s => q s)) cur := by
  induction l generalizing cur with
  | nil => rfl
  | cons a l ih =>
    rw [List.pairwise_cons] at h
    by_cases ha : q a
    · have hnil : l.filter (fun s => decide (q s)) = [] :=
        List.filter_eq_nil_iff.mpr (fun y hy hq => h.1 y hy ⟨ha, of_decide_eq_true hq⟩)
      have hp : (fun s => decide (q s)) a = true := decide_eq_true ha
      rw [List.filter_cons_of_pos (p := fun s => decide (q s)) hp,
        List.find?_cons_of_pos (p := fun s => decide (q s)) hp, hnil]
      cases cur <;> rfl
    · have hp : ¬ (fun s => decide (q s)) a = true := fun e => ha (of_decide_eq_true e)
      rw [List.filter_cons_of_neg (p := fun s => decide (q s)) hp,
        List.find?_cons_of_neg (p := fun s => decide (q s)) hp]
      exact ih h.2 cur

theorem pairwise_key_of_nodup {α κ : Type} (key : α → κ) (k : κ) {l : List α} (h : (l.map key).Nodup) :
    l.Pairwise (fun x y => ¬ (key x = k ∧ key y = k)) :=
  (List.pairwise_map.mp h).imp (fun hne hq => hne (hq.1.trans hq.2.symm))

/-! ### sessions -/

theorem sessLookup_id {id : String} {l : List SessionMD} {s : SessionMD}
    (h : sessLookup id l = some s) : s.id = id := by
  rw [sessLookup_eq_find] at h
  exact of_decide_eq_true (List.find?_some (p := fun s : SessionMD => decide (s.id = id)) h)

theorem sessLookup_mem {id : String} {l : List SessionMD} {s : SessionMD}
    (h : sessLookup id l = some s) : s ∈ l := by
  rw [sessLookup_eq_find] at h
  exact List.mem_of_find?_eq_some h

theorem sessLookup_none {id : String} {l : List SessionMD} :
    sessLookup id l = none ↔ id ∉ l.map (·.id) := by
  simp only [sessLookup_eq_find, List.find?_eq_none, decide_eq_true_eq, List.mem_map, not_exists, not_and]

theorem sessLookup_sessSet_sy (id : String) (s : SessionMD) (l : List SessionMD) :
    sessLookup id (sessSet s l) = if s.id = id then some s else sessLookup id l :=
  sessLookup_sessSet s l id

/-- a batch of pairwise distinct, valid, strictly newer session updates is applied completely -/
theorem mergeSessions_eq_foldl (vs st : List SessionMD)
    (hv : ∀ v ∈ vs, v.id ≠ "")
    (hd : (vs.map (·.id)).Nodup)
    (hn : ∀ v ∈ vs, ∀ loc, sessLookup v.id st = some loc → lastUpdate loc.stamp < lastUpdate v.stamp) :
    mergeSessions vs st = vs.foldl (fun acc s => sessSet s acc) st := by
  induction vs generalizing st with
  | nil => rfl
  | cons v rest ih =>
    rw [List.map_cons, List.nodup_cons] at hd
    have hout : lwwOutdated SessionMD.ts (sessLookup v.id st) v = true := by
      unfold lwwOutdated
      split
      · rfl
      · rename_i loc hl
        exact decide_eq_true (hn v (List.mem_cons_self ..) loc hl)
    rw [mergeSessions_cons, if_neg (hv v (List.mem_cons_self ..)), sessStep, if_pos hout, List.foldl_cons]
    apply ih _ (fun w hw => hv w (List.mem_cons_of_mem _ hw)) hd.2
    intro w hw loc hl
    have hne : v.id ≠ w.id := fun e => hd.1 (e ▸ List.mem_map_of_mem hw)
    rw [sessLookup_sessSet, if_neg hne] at hl
    exact hn w (List.mem_cons_of_mem _ hw) loc hl

theorem sessLookup_mergeSessions_sy (l st : List SessionMD) (hv : ∀ s ∈ l, s.id ≠ "")
    (hd : (l.map (·.id)).Nodup) (id : String) :
    sessLookup id (mergeSessions l st) = pick SessionMD.ts (sessLookup id l) (sessLookup id st) := by
  rw [sessLookup_mergeSessions l hv id, sessLookup_eq_find id l]
  exact lwwFold_filter_unique SessionMD.ts (fun s => s.id = id) l (pairwise_key_of_nodup _ id hd) _

theorem mergeSessions_mem {l st : List SessionMD} {x : SessionMD} (h : x ∈ mergeSessions l st) :
    x ∈ l ∨ x ∈ st := by
  refine mergeSessions_preserves (fun st' => ∀ x ∈ st', x ∈ l ∨ x ∈ st) l ?_ st (fun x hx => Or.inr hx) x h
  intro s hs st' ih x hx
  rcases sessSet_mem hx with rfl | hx
  · exact Or.inl hs
  · exact ih x hx

/-! ### subscriptions -/

theorem subsLookup_mem {p : String} {m : List (String × List Sub)} {x : Sub}
    (h : x ∈ subsLookup p m) : (p, subsLookup p m) ∈ m := by
  induction m with
  | nil => simp [subsLookup] at h
  | cons y rest ih =>
    obtain ⟨k, l⟩ := y
    simp only [subsLookup] at h ⊢
    split at h
    · rename_i hk; subst hk; simp
    · rename_i hk; simp [hk, ih h]

theorem subListSet_mem {s x : Sub} {l : List Sub} (h : x ∈ (subListSet s l).1) : x = s ∨ x ∈ l := by
  induction l with
  | nil => exact absurd h List.not_mem_nil
  | cons y rest ih =>
    have keep : x ∈ y :: (subListSet s rest).1 → x = s ∨ x ∈ y :: rest := fun h =>
      (List.mem_cons.mp h).elim (fun e => Or.inr (e ▸ List.mem_cons_self ..))
        (fun h => (ih h).imp id (List.mem_cons_of_mem _))
    rw [subListSet_cons] at h
    split at h
    · split at h
      · exact (List.mem_cons.mp h).imp id (List.mem_cons_of_mem _)
      · exact keep h
    · exact keep h

theorem subListSet_sessions (s : Sub) (l : List Sub) :
    (subListSet s l).1.map (·.session) = l.map (·.session) := by
  induction l with
  | nil => rfl
  | cons y rest ih =>
    rw [subListSet_cons]
    split
    · split
      · rename_i hy _
        rw [List.map_cons, List.map_cons, hy]
      · rw [List.map_cons, List.map_cons, ih]
    · rw [List.map_cons, List.map_cons, ih]

theorem subListSet_found (s : Sub) (l : List Sub) :
    (subListSet s l).2 = true ↔ s.session ∈ l.map (·.session) := by
  induction l with
  | nil => exact ⟨fun h => Bool.noConfusion h, fun h => absurd h List.not_mem_nil⟩
  | cons y rest ih =>
    rw [subListSet_cons, List.map_cons, List.mem_cons]
    split
    · rename_i hy
      split <;> exact ⟨fun _ => Or.inl hy.symm, fun _ => rfl⟩
    · rename_i hy
      exact ih.trans ⟨Or.inr, fun h => h.elim (fun e => absurd e.symm hy) id⟩

theorem subsSetList_mem {s x : Sub} {m : List (String × List Sub)} (h : x ∈ subsSetList s m) :
    x = s ∨ x ∈ subsLookup s.pattern m := by
  simp only [subsSetList] at h
  split at h
  · exact subListSet_mem h
  · simp only [List.mem_append, List.mem_singleton] at h
    rcases h with h | h
    · exact subListSet_mem h
    · exact Or.inl h

/-- a property of all stored subscriptions (possibly depending on the key) survives `subsSet` -/
theorem subsSet_forall (Q : String → Sub → Prop) (s : Sub) (m : List (String × List Sub))
    (hm : ∀ kl ∈ m, ∀ x ∈ kl.2, Q kl.1 x) (hs : Q s.pattern s) :
    ∀ kl ∈ subsSet s m, ∀ x ∈ kl.2, Q kl.1 x := by
  intro kl hkl x hx
  rw [subsSet_eq_sy] at hkl
  rcases subsAssign_mem hkl with e | hmem
  · subst e
    rcases subsSetList_mem hx with e | hl
    · subst e; exact hs
    · exact hm _ (subsLookup_mem hl) x hl
  · exact hm kl hmem x hx

theorem subsSet_keys_nodup (s : Sub) (m : List (String × List Sub)) (h : (m.map (·.1)).Nodup) :
    ((subsSet s m).map (·.1)).Nodup := by
  rw [subsSet_eq_sy]; exact subsAssign_nodup _ _ _ h

theorem subsSetList_nodup (s : Sub) (m : List (String × List Sub))
    (hm : ∀ kl ∈ m, (kl.2.map (·.session)).Nodup) : ((subsSetList s m).map (·.session)).Nodup := by
  have hl : ((subsLookup s.pattern m).map (·.session)).Nodup := by
    cases hl : subsLookup s.pattern m with
    | nil => exact List.nodup_nil
    | cons y r =>
      have : y ∈ subsLookup s.pattern m := by simp [hl]
      have := hm _ (subsLookup_mem this)
      simpa [hl] using this
  simp only [subsSetList]
  split
  · rw [subListSet_sessions]; exact hl
  · rename_i hf
    rw [List.map_append, subListSet_sessions]
    apply nodup_append_singleton hl
    intro hmem
    exact hf ((subListSet_found _ _).mpr hmem)

theorem subsSet_inner_nodup (s : Sub) (m : List (String × List Sub))
    (hm : ∀ kl ∈ m, (kl.2.map (·.session)).Nodup) :
    ∀ kl ∈ subsSet s m, (kl.2.map (·.session)).Nodup := by
  intro kl hkl
  rw [subsSet_eq_sy] at hkl
  rcases subsAssign_mem hkl with e | hmem
  · subst e; exact subsSetList_nodup s m hm
  · exact hm kl hmem

theorem mergeSubs_eq_foldl (vs : List Sub) (m : List (String × List Sub))
    (hv : ∀ v ∈ vs, v.session ≠ "" ∧ v.pattern ≠ "") :
    mergeSubs vs m = vs.foldl (fun acc s => subsSet s acc) m := by
  induction vs generalizing m with
  | nil => rfl
  | cons v rest ih =>
    rw [mergeSubs_cons_valid _ _ _ (hv v (List.mem_cons_self ..)), List.foldl_cons]
    exact ih _ (fun w hw => hv w (List.mem_cons_of_mem _ hw))

theorem foldl_subsSet_forall (Q : String → Sub → Prop) (vs : List Sub) (m : List (String × List Sub))
    (hm : ∀ kl ∈ m, ∀ x ∈ kl.2, Q kl.1 x) (hs : ∀ v ∈ vs, Q v.pattern v) :
    ∀ kl ∈ vs.foldl (fun acc s => subsSet s acc) m, ∀ x ∈ kl.2, Q kl.1 x := by
  induction vs generalizing m with
  | nil => exact hm
  | cons v rest ih =>
    rw [List.foldl_cons]
    exact ih _ (subsSet_forall Q v m hm (hs v (List.mem_cons_self ..)))
      (fun w hw => hs w (List.mem_cons_of_mem _ hw))

theorem find?_congr {α : Type} {p q : α → Bool} {l : List α} (h : ∀ x ∈ l, p x = q x) :
    l.find? p = l.find? q := by
  induction l with
  | nil => rfl
  | cons a r ih =>
    rw [List.find?_cons, List.find?_cons, h a (List.mem_cons_self ..),
      ih (fun x hx => h x (List.mem_cons_of_mem _ hx))]

theorem subEntry_mergeSubs_sy (l : List Sub) (m : List (String × List Sub)) (hv : ∀ x ∈ l, validSub x)
    (hd : l.Pairwise (fun x y => ¬ (x.pattern = y.pattern ∧ x.session = y.session))) (p s : String) :
    subEntry (mergeSubs l m) p s =
      pick Sub.ts (l.find? (fun x => x.pattern = p ∧ x.session = s)) (subEntry m p s) := by
  rw [subEntry_mergeSubs l hv p s]
  apply lwwFold_filter_unique Sub.ts (fun x => x.pattern = p ∧ x.session = s)
  exact hd.imp (fun hne hq => hne ⟨hq.1.1.trans hq.2.1.symm, hq.1.2.trans hq.2.2.symm⟩)

/-- the stored-subscriptions invariant part of `Inv` -/
def SubsInv (m : List (String × List Sub)) : Prop :=
  (m.map (·.1)).Nodup ∧ ∀ kl ∈ m, (kl.2.map (·.session)).Nodup ∧ ∀ s ∈ kl.2, s.pattern = kl.1 ∧ validSub s

theorem subs_flat_pairwise (m : List (String × List Sub)) (h : SubsInv m) :
    (m.flatMap (·.2)).Pairwise (fun x y => ¬ (x.pattern = y.pattern ∧ x.session = y.session)) := by
  rw [List.pairwise_flatMap]
  constructor
  · intro kl hkl
    have := (h.2 kl hkl).1
    rw [List.Nodup, List.pairwise_map] at this
    exact this.imp (fun hne e => hne e.2)
  · have := h.1
    rw [List.Nodup, List.pairwise_map] at this
    refine List.Pairwise.imp_of_mem ?_ this
    intro a b ha hb hne x hx y hy e
    apply hne
    rw [← ((h.2 a ha).2 x hx).1, ← ((h.2 b hb).2 y hy).1]
    exact e.1

theorem subs_flat_find (m : List (String × List Sub)) (h : SubsInv m) (p s : String) :
    (m.flatMap (·.2)).find? (fun x => x.pattern = p ∧ x.session = s) = subEntry m p s := by
  induction m with
  | nil => rfl
  | cons kl rest ih =>
    obtain ⟨k, l⟩ := kl
    have hrest : SubsInv rest :=
      ⟨(List.nodup_cons.mp h.1).2, fun kl hkl => h.2 kl (List.mem_cons_of_mem _ hkl)⟩
    have hl := (h.2 (k, l) (List.mem_cons_self ..)).2
    simp only [List.flatMap_cons, List.find?_append, subEntry, subsLookup]
    by_cases hk : k = p
    · subst hk
      simp only [if_true]
      have e1 : l.find? (fun x => decide (x.pattern = k ∧ x.session = s)) = l.find? (fun y => y.session == s) := by
        apply find?_congr
        intro x hx
        simp only [(hl x hx).1, eq_self, true_and]
        rfl
      have e2 : (rest.flatMap (·.2)).find? (fun x => decide (x.pattern = k ∧ x.session = s)) = none := by
        rw [List.find?_eq_none]
        intro x hx
        simp only [List.mem_flatMap] at hx
        obtain ⟨kl', hkl', hx'⟩ := hx
        have hp := ((h.2 kl' (List.mem_cons_of_mem _ hkl')).2 x hx').1
        have : kl'.1 ≠ k := fun e =>
          (List.nodup_cons.mp h.1).1 (e ▸ List.mem_map_of_mem (f := (·.1)) hkl')
        simp [hp, this]
      rw [e1, e2, Option.or_none]
    · simp only [hk, if_false]
      have e1 : l.find? (fun x => decide (x.pattern = p ∧ x.session = s)) = none := by
        rw [List.find?_eq_none]
        intro x hx
        simp [(hl x hx).1, hk]
      rw [e1, Option.none_or]
      exact ih hrest

theorem subs_flat_valid (m : List (String × List Sub)) (h : SubsInv m) :
    ∀ x ∈ m.flatMap (·.2), validSub x := by
  intro x hx
  obtain ⟨kl, hkl, hx'⟩ := List.mem_flatMap.mp hx
  exact ((h.2 kl hkl).2 x hx').2

/-- `A.flatMap (·.2)` is what `snapshot` sends -/
theorem subEntry_merge_snapshot (A B : List (String × List Sub)) (hA : SubsInv A) (p s : String) :
    subEntry (mergeSubs (A.flatMap (·.2)) B) p s = pick Sub.ts (subEntry A p s) (subEntry B p s) := by
  rw [subEntry_mergeSubs_sy _ _ (subs_flat_valid _ hA) (subs_flat_pairwise _ hA), subs_flat_find _ hA]

/-! ### retained messages -/

theorem retEntry_mem {m : List (String × Retained)} {t : String} {r : Retained}
    (h : retEntry m t = some r) : (t, r) ∈ m := by
  simp only [retEntry, Option.map_eq_some_iff] at h
  obtain ⟨kr, hf, he⟩ := h
  have h1 := List.find?_some hf
  have h2 := List.mem_of_find?_eq_some hf
  simp only [beq_iff_eq] at h1
  obtain ⟨k, r'⟩ := kr
  simp only at h1 he
  subst h1 he
  exact h2

theorem retEntry_mergeRetained_sy (l : List Retained) (m : List (String × Retained))
    (hk : (m.map (·.1)).Nodup) (hv : ∀ r ∈ l, validRetained r) (hd : (l.map (·.topic)).Nodup) (t : String) :
    retEntry (mergeRetained l m) t = pick Retained.ts (l.find? (fun r => r.topic = t)) (retEntry m t) := by
  rw [retEntry_mergeRetained l hv t m hk]
  exact lwwFold_filter_unique Retained.ts (fun r => r.topic = t) l (pairwise_key_of_nodup _ t hd) _

theorem mergeRetained_forall (Q : String → Retained → Prop) (l : List Retained) (m : List (String × Retained))
    (hm : ∀ kr ∈ m, Q kr.1 kr.2) (hl : ∀ r ∈ l, Q r.topic r) :
    ∀ kr ∈ mergeRetained l m, Q kr.1 kr.2 := by
  refine mergeRetained_preserves (fun m => ∀ kr ∈ m, Q kr.1 kr.2) l ?_ m hm
  intro r hr m ih kr hkr
  rcases topicsAssign_mem hkr with rfl | hkr
  · exact hl r hr
  · exact ih kr hkr

theorem subsSet_inv (s : Sub) (m : List (String × List Sub)) (h : SubsInv m) (hs : validSub s) :
    SubsInv (subsSet s m) := by
  refine ⟨subsSet_keys_nodup s m h.1, fun kl hkl => ⟨?_, ?_⟩⟩
  · exact subsSet_inner_nodup s m (fun kl hkl => (h.2 kl hkl).1) kl hkl
  · exact subsSet_forall (fun k x => x.pattern = k ∧ validSub x) s m (fun kl hkl => (h.2 kl hkl).2)
      ⟨rfl, hs⟩ kl hkl

theorem mergeSubs_inv (l : List Sub) (m : List (String × List Sub)) (h : SubsInv m)
    (hv : ∀ s ∈ l, validSub s) : SubsInv (mergeSubs l m) :=
  mergeSubs_preserves SubsInv l (fun s hs m h => subsSet_inv s m h (hv s hs)) m h

theorem ret_snapshot_find (m : List (String × Retained)) (hm : ∀ kr ∈ m, kr.1 = kr.2.topic) (t : String) :
    (m.map (·.2)).find? (fun r => r.topic = t) = retEntry m t := by
  rw [List.find?_map, retEntry]
  congr 1
  apply find?_congr
  intro x hx
  simp only [Function.comp_apply, hm x hx]
  rfl

theorem ret_snapshot_nodup (m : List (String × Retained)) (hm : ∀ kr ∈ m, kr.1 = kr.2.topic)
    (hk : (m.map (·.1)).Nodup) : ((m.map (·.2)).map (·.topic)).Nodup := by
  have : (m.map (·.2)).map (·.topic) = m.map (·.1) := by
    rw [List.map_map]
    exact List.map_congr_left (fun x hx => (hm x hx).symm)
  rw [this]; exact hk

theorem ret_snapshot_valid (m : List (String × Retained)) (hm : ∀ kr ∈ m, kr.1 = kr.2.topic ∧ validRetained kr.2) :
    ∀ r ∈ m.map (·.2), validRetained r := by
  intro r hr
  obtain ⟨kr, hkr, e⟩ := List.mem_map.mp hr
  subst e
  exact (hm kr hkr).2

/-- `A.map (·.2)` is what `snapshot` sends -/
theorem retEntry_merge_snapshot (A B : List (String × Retained)) (hB : (B.map (·.1)).Nodup)
    (hk : (A.map (·.1)).Nodup) (hA : ∀ kr ∈ A, kr.1 = kr.2.topic ∧ validRetained kr.2) (t : String) :
    retEntry (mergeRetained (A.map (·.2)) B) t = pick Retained.ts (retEntry A t) (retEntry B t) := by
  have hA' := fun kr h => (hA kr h).1
  rw [retEntry_mergeRetained_sy _ _ hB (ret_snapshot_valid _ hA) (ret_snapshot_nodup _ hA' hk),
    ret_snapshot_find _ hA']

/-! ### C09: per-store invariants of the origin (`last` = last clock value used) -/

def SessOk (last : Int) (l : List SessionMD) : Prop :=
  (l.map (·.id)).Nodup ∧ ∀ s ∈ l, s.id ≠ "" ∧ s.added ≤ last ∧ s.deleted ≤ last

def SubsOk (last : Int) (m : List (String × List Sub)) : Prop :=
  ∀ kl ∈ m, ∀ s ∈ kl.2, s.session ≠ "" ∧ s.pattern ≠ "" ∧ s.added ≤ last ∧ s.deleted ≤ last

def TopsOk (last : Int) (m : List (String × Retained)) : Prop :=
  (m.map (·.1)).Nodup ∧ ∀ kr ∈ m, kr.2.added ≤ last ∧ kr.2.deleted ≤ last

theorem SessOk.mono {last now : Int} {l : List SessionMD} (h : SessOk last l) (hle : last ≤ now) :
    SessOk now l :=
  ⟨h.1, fun s hs => have := h.2 s hs; ⟨this.1, Int.le_trans this.2.1 hle, Int.le_trans this.2.2 hle⟩⟩

theorem SubsOk.mono {last now : Int} {m : List (String × List Sub)} (h : SubsOk last m) (hle : last ≤ now) :
    SubsOk now m :=
  fun kl hkl s hs => have := h kl hkl s hs
    ⟨this.1, this.2.1, Int.le_trans this.2.2.1 hle, Int.le_trans this.2.2.2 hle⟩

theorem TopsOk.mono {last now : Int} {m : List (String × Retained)} (h : TopsOk last m) (hle : last ≤ now) :
    TopsOk now m :=
  ⟨h.1, fun kr hkr => have := h.2 kr hkr; ⟨Int.le_trans this.1 hle, Int.le_trans this.2 hle⟩⟩

theorem lastUpdate_le {a d last : Int} (ha : a ≤ last) (hd : d ≤ last) : lastUpdate ⟨a, d⟩ ≤ last := by
  rw [lastUpdate_mk]; split <;> assumption

/-- a stamp written at clock value `now` -/
def StampedAt (now : Int) (s : Stamp) : Prop :=
  s.added ≤ now ∧ s.deleted ≤ now ∧ lastUpdate s = now

theorem stampedAt_added {now d : Int} (h : d < now) : StampedAt now ⟨now, d⟩ :=
  ⟨Int.le_refl _, Int.le_of_lt h, by rw [lastUpdate_mk, if_pos h]⟩

theorem stampedAt_deleted {now a : Int} (h : a ≤ now) : StampedAt now ⟨a, now⟩ :=
  ⟨h, Int.le_refl _, by rw [lastUpdate_mk, if_neg (Int.not_lt.mpr h)]⟩

theorem foldl_sessSet_ok (now : Int) (vs l : List SessionMD) (h : SessOk now l)
    (hv : ∀ v ∈ vs, v.id ≠ "" ∧ v.added ≤ now ∧ v.deleted ≤ now) :
    SessOk now (vs.foldl (fun acc s => sessSet s acc) l) := by
  induction vs generalizing l with
  | nil => exact h
  | cons v rest ih =>
    rw [List.foldl_cons]
    apply ih _ _ (fun w hw => hv w (List.mem_cons_of_mem _ hw))
    refine ⟨sessSet_nodup _ _ h.1, fun s hs => ?_⟩
    rcases sessSet_mem hs with e | hm
    · subst e; exact hv s (List.mem_cons_self ..)
    · exact h.2 s hm

/-- sessions: a batch of distinct updates all stamped `now` reaches the receiver completely -/
theorem sess_batch (last now : Int) (vs l : List SessionMD) (h : SessOk last l) (hlt : last < now)
    (hd : (vs.map (·.id)).Nodup) (hv : ∀ v ∈ vs, v.id ≠ "" ∧ StampedAt now v.stamp) :
    mergeSessions vs l = vs.foldl (fun acc s => sessSet s acc) l ∧
      SessOk now (vs.foldl (fun acc s => sessSet s acc) l) := by
  constructor
  · apply mergeSessions_eq_foldl _ _ (fun v hv' => (hv v hv').1) hd
    intro v hv' loc hl
    have := h.2 loc (sessLookup_mem hl)
    have hle : lastUpdate loc.stamp ≤ last := lastUpdate_le this.2.1 this.2.2
    rw [(hv v hv').2.2.2]
    exact Int.lt_of_le_of_lt hle hlt
  · exact foldl_sessSet_ok now vs l (h.mono (Int.le_of_lt hlt))
      (fun v hv' => ⟨(hv v hv').1, (hv v hv').2.1, (hv v hv').2.2.1⟩)

/-- subscriptions: a batch of valid updates reaches the receiver completely -/
theorem subs_batch (now : Int) (vs : List Sub) (m : List (String × List Sub)) (h : SubsOk now m)
    (hv : ∀ v ∈ vs, v.session ≠ "" ∧ v.pattern ≠ "" ∧ v.added ≤ now ∧ v.deleted ≤ now) :
    mergeSubs vs m = vs.foldl (fun acc s => subsSet s acc) m ∧
      SubsOk now (vs.foldl (fun acc s => subsSet s acc) m) :=
  ⟨mergeSubs_eq_foldl vs m (fun v hv' => ⟨(hv v hv').1, (hv v hv').2.1⟩),
    foldl_subsSet_forall (fun _ s => s.session ≠ "" ∧ s.pattern ≠ "" ∧ s.added ≤ now ∧ s.deleted ≤ now)
      vs m h hv⟩

/-- retained: one valid update stamped `now` reaches the receiver -/
theorem tops_one (last now : Int) (r : Retained) (m : List (String × Retained)) (h : TopsOk last m)
    (hlt : last < now) (hr : validRetained r) (hs : StampedAt now r.stamp) :
    mergeRetained [r] m = topicsAssign r.topic r m ∧ TopsOk now (topicsAssign r.topic r m) := by
  constructor
  · have hout : lwwOutdated Retained.ts (retEntry m r.topic) r = true := by
      unfold lwwOutdated
      split
      · rfl
      · rename_i l hl
        have := h.2 _ (retEntry_mem hl)
        have hle : lastUpdate l.stamp ≤ last := lastUpdate_le this.1 this.2
        have hnow : last < lastUpdate r.stamp := by rw [hs.2.2]; exact hlt
        exact decide_eq_true (Int.lt_of_le_of_lt hle hnow)
    rw [mergeRetained_cons r [] m hr h.1, retStep, if_pos hout]
    rfl
  · refine ⟨topicsAssign_nodup _ _ _ h.1, fun kr hkr => ?_⟩
    rcases topicsAssign_mem hkr with e | hm
    · subst e; exact ⟨hs.1, hs.2.1⟩
    · exact (h.mono (Int.le_of_lt hlt)).2 kr hm

/-- origin `a` and receiver `b` hold the same stores; `a`'s stores are well formed and carry no
    stamp beyond `last` -/
def SyncInv (last : Int) (a b : State) : Prop :=
  b.sessions = a.sessions ∧ b.subs = a.subs ∧ b.topics = a.topics ∧
    SessOk last a.sessions ∧ SubsOk last a.subs ∧ TopsOk last a.topics

/-- the `match` that `runBoth` (Properties/C09) writes inline -/
def recv (b : State) : Option Event → State
  | some ev => merge b ev
  | none => b

theorem SyncInv.mono {last now : Int} {a b : State} (h : SyncInv last a b) (hle : last ≤ now) :
    SyncInv now a b :=
  ⟨h.1, h.2.1, h.2.2.1, h.2.2.2.1.mono hle, h.2.2.2.2.1.mono hle, h.2.2.2.2.2.mono hle⟩

theorem SyncInv.init (pa pb : Nat) : SyncInv 0 { peer := pa } { peer := pb } :=
  ⟨rfl, rfl, rfl, ⟨List.nodup_nil, fun _ h => absurd h List.not_mem_nil⟩,
    fun _ h => absurd h List.not_mem_nil, ⟨List.nodup_nil, fun _ h => absurd h List.not_mem_nil⟩⟩

theorem sync_sess {last now : Int} {a b : State} (h : SyncInv last a b) (hlt : last < now)
    (vs : List SessionMD) (hd : (vs.map (·.id)).Nodup) (hv : ∀ v ∈ vs, v.id ≠ "" ∧ StampedAt now v.stamp) :
    SyncInv now { a with sessions := vs.foldl (fun acc s => sessSet s acc) a.sessions }
      (merge b { sessions := vs }) := by
  obtain ⟨h1, h2, h3, h4, h5, h6⟩ := h
  have hle := Int.le_of_lt hlt
  have := sess_batch last now vs a.sessions h4 hlt hd hv
  refine ⟨?_, h2, h3, this.2, h5.mono hle, h6.mono hle⟩
  show mergeSessions vs b.sessions = _
  rw [h1]; exact this.1

theorem sync_subs {last now : Int} {a b : State} (h : SyncInv last a b) (hlt : last < now)
    (vs : List Sub)
    (hv : ∀ v ∈ vs, v.session ≠ "" ∧ v.pattern ≠ "" ∧ v.added ≤ now ∧ v.deleted ≤ now) :
    SyncInv now { a with subs := vs.foldl (fun acc s => subsSet s acc) a.subs }
      (merge b { subs := vs }) := by
  obtain ⟨h1, h2, h3, h4, h5, h6⟩ := h
  have hle := Int.le_of_lt hlt
  have := subs_batch now vs a.subs (h5.mono hle) hv
  refine ⟨h1, ?_, h3, h4.mono hle, this.2, h6.mono hle⟩
  show mergeSubs vs b.subs = _
  rw [h2]; exact this.1

theorem sync_tops {last now : Int} {a b : State} (h : SyncInv last a b) (hlt : last < now)
    (r : Retained) (hr : validRetained r) (hs : StampedAt now r.stamp) :
    SyncInv now { a with topics := topicsAssign r.topic r a.topics } (merge b { retained := [r] }) := by
  obtain ⟨h1, h2, h3, h4, h5, h6⟩ := h
  have hle := Int.le_of_lt hlt
  have := tops_one last now r a.topics h6 hlt hr hs
  refine ⟨h1, h2, ?_, h4.mono hle, h5.mono hle, this.2⟩
  show mergeRetained [r] b.topics = _
  rw [h3]; exact this.1

/-! #### the nine local operations -/

theorem sync_sessCreate {last now : Int} {a b : State} (h : SyncInv last a b) (h0 : 0 ≤ last)
    (hlt : last < now) (id c : String) (ca : Int) (lwt : Option Will) (mp : String) (hid : id ≠ "") :
    SyncInv now (sessCreate a now id c ca lwt mp).1 (recv b (sessCreate a now id c ca lwt mp).2.1) := by
  have key : SyncInv now { a with sessions := sessSet ⟨id, c, mp, a.peer, ca, lwt, now, 0⟩ a.sessions }
      (merge b { sessions := [⟨id, c, mp, a.peer, ca, lwt, now, 0⟩] }) := by
    apply sync_sess h hlt [⟨id, c, mp, a.peer, ca, lwt, now, 0⟩] (List.pairwise_singleton _ _)
    intro v hv
    rw [List.mem_singleton.mp hv]
    exact ⟨hid, stampedAt_added (Int.lt_of_le_of_lt h0 hlt)⟩
  unfold sessCreate
  split
  · split
    · exact h.mono (Int.le_of_lt hlt)
    · exact key
  · exact key

theorem sync_sessDelete {last now : Int} {a b : State} (h : SyncInv last a b)
    (hlt : last < now) (id : String) :
    SyncInv now (sessDelete a now id).1 (recv b (sessDelete a now id).2) := by
  have hle := Int.le_of_lt hlt
  unfold sessDelete
  split
  · exact h.mono hle
  · rename_i s hs
    split
    · exact h.mono hle
    · have hm := h.2.2.2.1.2 s (sessLookup_mem hs)
      apply sync_sess h hlt [{ s with deleted := now }] (List.pairwise_singleton _ _)
      intro v hv
      rw [List.mem_singleton.mp hv]
      exact ⟨hm.1, stampedAt_deleted (Int.le_trans hm.2.1 hle)⟩

theorem sync_sessDeletePeer {last now : Int} {a b : State} (h : SyncInv last a b)
    (hlt : last < now) (p : Nat) :
    SyncInv now (sessDeletePeer a now p).1 (recv b (some (sessDeletePeer a now p).2)) := by
  unfold sessDeletePeer
  apply sync_sess h hlt
  · rw [List.map_map]
    exact (List.filter_sublist.map _).nodup h.2.2.2.1.1
  · intro v hv
    obtain ⟨s, hs, e⟩ := List.mem_map.mp hv
    subst e
    have hm := h.2.2.2.1.2 s (List.mem_filter.mp hs).1
    exact ⟨hm.1, stampedAt_deleted (Int.le_trans hm.2.1 (Int.le_of_lt hlt))⟩

theorem sync_subCreate {last now : Int} {a b : State} (h : SyncInv last a b) (h0 : 0 ≤ last)
    (hlt : last < now) (s p : String) (q : Int) (hv : s ≠ "" ∧ p ≠ "") :
    SyncInv now (subCreate a now s p q).1 (recv b (some (subCreate a now s p q).2)) := by
  unfold subCreate
  apply sync_subs h hlt [⟨s, p, a.peer, q, now, 0⟩]
  intro v hv'
  rw [List.mem_singleton.mp hv']
  exact ⟨hv.1, hv.2, Int.le_refl _, Int.le_of_lt (Int.lt_of_le_of_lt h0 hlt)⟩

theorem sync_subDelete {last now : Int} {a b : State} (h : SyncInv last a b) (h0 : 0 ≤ last)
    (hlt : last < now) (s p : String) (hv : s ≠ "" ∧ p ≠ "") :
    SyncInv now (subDelete a now s p).1 (recv b (some (subDelete a now s p).2)) := by
  unfold subDelete
  apply sync_subs h hlt [⟨s, p, a.peer, 0, 0, now⟩]
  intro v hv'
  rw [List.mem_singleton.mp hv']
  exact ⟨hv.1, hv.2, Int.le_of_lt (Int.lt_of_le_of_lt h0 hlt), Int.le_refl _⟩

theorem sync_subBulkDelete {last now : Int} {a b : State} (h : SyncInv last a b)
    (hlt : last < now) (f : Sub → Bool) :
    SyncInv now (subBulkDelete a now f).1 (recv b (some (subBulkDelete a now f).2)) := by
  unfold subBulkDelete
  apply sync_subs h hlt
  intro v hv
  obtain ⟨x, hx, e⟩ := List.mem_map.mp hv
  subst e
  obtain ⟨kl, hkl, hx⟩ := List.mem_flatMap.mp hx
  have := h.2.2.2.2.1 kl hkl x (List.mem_filter.mp hx).1
  exact ⟨this.1, this.2.1, Int.le_trans this.2.2.1 (Int.le_of_lt hlt), Int.le_refl _⟩

theorem sync_topicSet {last now : Int} {a b : State} (h : SyncInv last a b) (h0 : 0 ≤ last)
    (hlt : last < now) (t pl : String) (q : Nat) (rt d : Bool) (hv : t ≠ "" ∧ wfTopic (levels t) = true) :
    SyncInv now (topicSet a now t pl q rt d).1 (recv b (some (topicSet a now t pl q rt d).2)) := by
  have hpos : 0 < now := Int.lt_of_le_of_lt h0 hlt
  unfold topicSet
  apply sync_tops h hlt { topic := t, payload := pl, qos := q, retain := rt, dup := d, added := now, deleted := 0 }
  · refine ⟨rfl, hv.1, hv.2, Or.inl ?_⟩
    show isAdded ⟨now, 0⟩ = true
    rw [isAdded_mk, decide_eq_true hpos]
    rfl
  · exact stampedAt_added hpos

theorem sync_topicDelete {last now : Int} {a b : State} (h : SyncInv last a b) (h0 : 0 ≤ last)
    (hlt : last < now) (t : String) (hv : t ≠ "" ∧ wfTopic (levels t) = true) :
    SyncInv now (topicDelete a now t).1 (recv b (some (topicDelete a now t).2)) := by
  have hpos : 0 < now := Int.lt_of_le_of_lt h0 hlt
  unfold topicDelete
  apply sync_tops h hlt { topic := t, payload := "", qos := 0, retain := false, dup := false, added := 0, deleted := now }
  · refine ⟨rfl, hv.1, hv.2, Or.inr ?_⟩
    show isRemoved ⟨0, now⟩ = true
    rw [isRemoved_mk, decide_eq_true hpos]
    rfl
  · exact stampedAt_deleted (Int.le_of_lt hpos)

end Wasp.Dist
