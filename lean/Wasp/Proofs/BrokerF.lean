import Wasp.Proofs.BrokerRel
/-!
Helper lemmas for C18: what the byte-level connection loops (`pump`, `rawBytes`, `closeFromClient`)
can do to the registries and to the output of the broker.

* `Quiet w w'`: every session registered in `w'` was registered in `w` (same id, same connection) and the
  output only grew by packets that are not `closed` — true of every operation that ends no session;
* `Ext c w w'`: if sessions are registered under the id of their connection (`RegOK`), they still are, and
  the output only grew by packets that are not `closed` or are addressed to `c`;
* `Keep c w w'`: every registered session id other than "S" ++ c stays registered.

`rawBytes` (with its `pump` loop) and `closeFromClientRaw` are `Acts c` (Wasp/Proofs/BrokerRel.lean), the closure of the steps traffic on
connection `c` is made of; `Ext c` and `Keep c` hold across each kind of step, so across them.
-/
namespace Wasp.Broker.AgentF
open Wasp.Dist Wasp.Topic Wasp.Broker Wasp.Broker.AgentD Wasp.Wire

/-! ### the decoder: remaining length -/

/-- every length byte contributes seven bits, and `k` more bytes may be read -/
theorem readRemLen_bound (b : Wire.Bytes) : ∀ (k idx acc mult remlen used : Nat), idx + k = 4 →
    readRemLen idx acc mult b = .ok remlen used → remlen + mult ≤ acc + 128 ^ k * mult ∧ used ≤ 4 := by
  induction b with
  | nil =>
    intro k idx acc mult remlen used _ h
    rw [readRemLen] at h
    split at h <;> cases h
  | cons x rest ih =>
    intro k idx acc mult remlen used hk h
    rw [readRemLen] at h
    split at h
    · cases h
    · obtain ⟨k, rfl⟩ : ∃ k', k = k' + 1 := ⟨k - 1, by omega⟩
      split at h
      · cases h
        have hp : 128 ^ 1 ≤ 128 ^ (k + 1) := Nat.pow_le_pow_right (by omega) (by omega)
        have h1 : (x + 1) * mult ≤ 128 ^ (k + 1) * mult := Nat.mul_le_mul_right mult (by omega)
        rw [Nat.add_mul] at h1
        omega
      · have h1 := ih k (idx + 1) _ _ remlen used (by omega) h
        have h2 : x % 128 * mult ≤ 127 * mult := Nat.mul_le_mul_right mult (by omega)
        rw [← Nat.mul_assoc, Nat.mul_right_comm, ← Nat.pow_succ, Nat.succ_eq_add_one] at h1
        omega

theorem alloc_bound (b : Wire.Bytes) (remlen used : Nat)
    (h : readRemLen 0 0 1 b = .ok remlen used) : remlen ≤ maxRemLen ∧ used ≤ 4 := by
  have := readRemLen_bound b 4 0 0 1 remlen used rfl h
  unfold maxRemLen
  omega

/-! ### `Quiet` -/

def RegLe (w w' : World) : Prop :=
  ∀ j, ∀ s' ∈ (w'.node j).reg, ∃ s ∈ (w.node j).reg, s.id = s'.id ∧ s.conn = s'.conn

structure Quiet (w w' : World) : Prop where
  reg : RegLe w w'
  out : Grew (fun e => e.2 ≠ Pkt.closed) w w'

theorem RegLe.refl (w : World) : RegLe w w := fun _ s' h => ⟨s', h, rfl, rfl⟩

theorem RegLe.trans {a b c : World} (h1 : RegLe a b) (h2 : RegLe b c) : RegLe a c := by
  intro j s3 h3
  obtain ⟨s2, m2, i2, c2⟩ := h2 j s3 h3
  obtain ⟨s1, m1, i1, c1⟩ := h1 j s2 m2
  exact ⟨s1, m1, i1.trans i2, c1.trans c2⟩

theorem Quiet.refl (w : World) : Quiet w w := ⟨RegLe.refl w, .refl _ w⟩

theorem Quiet.trans {a b c : World} (h1 : Quiet a b) (h2 : Quiet b c) : Quiet a c :=
  ⟨h1.reg.trans h2.reg, h1.out.trans h2.out⟩

theorem RegLe.of_nodes {w w' : World} (h : w'.nodes = w.nodes) : RegLe w w' := by
  intro j s' hs'
  rw [node_congr h] at hs'
  exact ⟨s', hs', rfl, rfl⟩

theorem Quiet.of_nodes {w w' : World} (h : w'.nodes = w.nodes) (ho : w'.out = w.out) : Quiet w w' :=
  ⟨RegLe.of_nodes h, .of_eq ho⟩

theorem RegLe.setNode (w : World) (i : Nat) (n' : Node)
    (h : ∀ s' ∈ n'.reg, ∃ s ∈ (w.node i).reg, s.id = s'.id ∧ s.conn = s'.conn) : RegLe w (w.setNode i n') := by
  intro j s' hs'
  rw [node_setNode] at hs'
  split at hs'
  · rename_i hc; rw [hc.1]; exact h s' hs'
  · exact ⟨s', hs', rfl, rfl⟩

theorem Quiet.setNode (w : World) (i : Nat) (n' : Node)
    (h : ∀ s' ∈ n'.reg, ∃ s ∈ (w.node i).reg, s.id = s'.id ∧ s.conn = s'.conn) : Quiet w (w.setNode i n') :=
  ⟨RegLe.setNode w i n' h, .of_eq rfl⟩

theorem Quiet.setNode_reg (w : World) (i : Nat) (n' : Node) (h : n'.reg = (w.node i).reg) :
    Quiet w (w.setNode i n') :=
  Quiet.setNode w i n' (fun s' hs' => ⟨s', h ▸ hs', rfl, rfl⟩)

theorem setSess_sub {n : Node} {sid : String} {s s' : Sess} (h : n.sess sid = some s)
    (hid : s'.id = s.id) (hc : s'.conn = s.conn) :
    ∀ x' ∈ (n.setSess s').reg, ∃ x ∈ n.reg, x.id = x'.id ∧ x.conn = x'.conn := by
  intro x' hx'
  rcases mem_setSess hx' with rfl | hy
  · exact ⟨s, (sess_some h).1, hid.symm, hc.symm⟩
  · exact ⟨x', hy, rfl, rfl⟩

theorem Quiet.setSess (w : World) (i : Nat) {sid : String} {s s' : Sess} (h : (w.node i).sess sid = some s)
    (hid : s'.id = s.id) (hc : s'.conn = s.conn) : Quiet w (w.setNode i ((w.node i).setSess s')) :=
  Quiet.setNode w i _ (setSess_sub h hid hc)

theorem Quiet.emit (w : World) (c : String) (p : Pkt) (hp : p ≠ Pkt.closed) : Quiet w (w.emit c p) :=
  ⟨RegLe.of_nodes rfl, .emit w c p hp⟩

theorem q_tick (w : World) : Quiet w w.tick.1 := Quiet.of_nodes rfl rfl

theorem q_broadcast (w : World) (i : Nat) (ev : Event) : Quiet w (w.broadcast i ev) := by
  unfold World.broadcast
  exact Quiet.setNode_reg _ _ _ rfl

theorem q_write (w : World) (i : Nat) (n' : Node) (h : n'.reg = (w.node i).reg) : Quiet w (w.tick.1.setNode i n') :=
  (q_tick w).trans (Quiet.setNode_reg _ i n' h)

theorem q_write_cast (w : World) (i : Nat) (n' : Node) (ev : Event) (h : n'.reg = (w.node i).reg) :
    Quiet w ((w.tick.1.setNode i n').broadcast i ev) :=
  (q_write w i n' h).trans (q_broadcast _ i ev)

theorem q_extendDeadline (w : World) (i : Nat) (sid : String) : Quiet w (w.extendDeadline i sid) :=
  extendDeadline_of (P := Quiet w) (Quiet.refl w) (fun _ hs => Quiet.setSess w i hs rfl rfl)

theorem q_subCreate (w : World) (i : Nat) (sid pat : String) (qos : Int) : Quiet w (w.subCreate i sid pat qos) := by
  simp only [World.subCreate]
  exact q_write_cast w i _ _ rfl

theorem q_subDelete (w : World) (i : Nat) (sid pat : String) : Quiet w (w.subDelete i sid pat) := by
  simp only [World.subDelete]
  exact q_write_cast w i _ _ rfl

theorem q_sessDelete (w : World) (i : Nat) (sid : String) : Quiet w (w.sessDelete i sid) := by
  simp only [World.sessDelete]
  split
  · exact q_write_cast w i _ _ rfl
  · exact q_write w i _ rfl

theorem q_retainStep (w : World) (i : Nat) (p : Pub) : Quiet w (retainStep w i p) := by
  unfold retainStep
  split
  · exact q_write_cast w i _ _ rfl
  · exact Quiet.refl w

theorem Quiet.of_moves {who : Option String} {w w' : World} (h : Moves who w w') : Quiet w w' :=
  h.rel (refl := Quiet.refl) (trans := Quiet.trans) (emit := Quiet.emit) (epoch := fun _ => Quiet.of_nodes rfl rfl)
    (extendDeadline := q_extendDeadline) (subCreate := fun sid _ w i => q_subCreate w i sid)
    (subDelete := fun sid _ w i => q_subDelete w i sid) (retain := q_retainStep)
    (topics := fun _ _ w i _ _ hs => Quiet.setSess w i hs rfl rfl) (tables := fun w i _ _ _ _ _ => Quiet.setNode_reg w i _ rfl)

/-! ### `Ext` -/

/-- the `RegWF` of Wasp/Properties/C18.lean -/
def RegOK (w : World) : Prop := ∀ i, ∀ s ∈ (w.node i).reg, s.id = "S" ++ s.conn

/-- the statement of `C18_confined_closed`, as a relation -/
def Ext (c : String) (w w' : World) : Prop := RegOK w → RegOK w' ∧ Conf c w w'

theorem RegOK.of_le {w w' : World} (h : RegLe w w') (hw : RegOK w) : RegOK w' := by
  intro j s' hs'
  obtain ⟨s, hs, hid, hc⟩ := h j s' hs'
  rw [← hid, ← hc]
  exact hw j s hs

theorem RegOK.of_nodes {w w' : World} (h : w'.nodes = w.nodes) (hw : RegOK w) : RegOK w' :=
  RegOK.of_le (RegLe.of_nodes h) hw

theorem Ext.refl (c : String) (w : World) : Ext c w w := fun h => ⟨h, Grew.refl _ w⟩

theorem Ext.trans {c : String} {a b d : World} (h1 : Ext c a b) (h2 : Ext c b d) : Ext c a d := by
  intro ha
  obtain ⟨hb, c1⟩ := h1 ha
  obtain ⟨hd, c2⟩ := h2 hb
  exact ⟨hd, Grew.trans c1 c2⟩

theorem Quiet.ext {w w' : World} (h : Quiet w w') (c : String) : Ext c w w' :=
  fun hw => ⟨RegOK.of_le h.reg hw, h.out.mono (fun _ hp hc => absurd hc hp)⟩

theorem Ext.of_nodes {c : String} {w w' : World} (h : w'.nodes = w.nodes) (ho : Conf c w w') : Ext c w w' :=
  fun hw => ⟨RegOK.of_nodes h hw, ho⟩

theorem regLe_tdBase (w : World) (i : Nat) (s : Sess) : RegLe w (tdBase w i s) := by
  unfold tdBase
  simp only
  refine RegLe.trans ?_ (Quiet.of_moves (Moves.foldl (fun w t => .subDelete w i t) _ _)).reg
  refine RegLe.trans (RegLe.setNode w i { w.node i with reg := (w.node i).reg.filter (fun x => x.id != s.id) } ?_)
    (RegLe.of_nodes rfl)
  intro s' hs'
  exact ⟨s', (List.mem_filter.mp hs').1, rfl, rfl⟩

theorem regLe_teardown (w : World) (i : Nat) (s : Sess) : RegLe w (teardown w i s).1 := by
  rw [teardown_eq]
  split
  · exact (regLe_tdBase w i s).trans (q_sessDelete _ _ _).reg
  · exact regLe_tdBase w i s

theorem ext_teardown (w : World) (i : Nat) (c : String) (s : Sess) (hs : (w.node i).sess ("S" ++ c) = some s) :
    Ext c w (teardown w i s).1 := by
  intro hw
  refine ⟨RegOK.of_le (regLe_teardown w i s) hw, ?_⟩
  obtain ⟨hmem, hid⟩ := sess_some hs
  have hc : s.conn = c := (String.append_right_inj "S").mp ((hw i s hmem).symm.trans hid)
  apply Conf.closed
  rw [teardown_out, hc]

theorem ext_shutdown (w : World) (i : Nat) (c : String) : Ext c w (w.shutdownSession i ("S" ++ c)) := by
  cases hs : (w.node i).sess ("S" ++ c) with
  | none => rw [shutdown_none hs]; exact Ext.refl c w
  | some s => exact (ext_teardown w i c s hs).trans ((Quiet.of_moves (shutdown_moves hs)).ext c)

theorem ext_register {c : String} (w : World) (i : Nat) (s : Sess) (hid : s.id = "S" ++ c) (hc : s.conn = c) :
    Ext c w (w.setNode i { w.node i with reg := (w.node i).reg ++ [s] }) := by
  refine fun hw => ⟨fun j x hx => ?_, Grew.of_eq rfl⟩
  rw [node_setNode] at hx
  split at hx
  · rcases List.mem_append.mp hx with hx | hx
    · exact hw i x hx
    · rw [List.mem_singleton.mp hx, hid, hc]
  · exact hw j x hx

theorem Ext.of_acts {c : String} {w w' : World} (h : Acts c w w') : Ext c w w' :=
  h.rel (refl := Ext.refl c) (trans := Ext.trans) (moves := fun h => (Quiet.of_moves h).ext c)
    (frame := fun hn ho _ => Ext.of_nodes hn ho)
    (disconnected := fun w i s hs => (Quiet.setSess (s' := { s with disconnected := true }) w i hs rfl rfl).ext c)
    (shutdown := fun w i => ext_shutdown w i c) (sessDelete := fun w i sid => (q_sessDelete w i sid).ext c)
    (record := fun w i d _ => (q_write w i { w.node i with dist := d } rfl).ext c)
    (broadcast := fun w i ev => (q_broadcast w i ev).ext c) (register := ext_register)

theorem ext_rawBytes (w : World) (c : String) (b : Wire.Bytes) : Ext c w (rawBytes w c b).1 :=
  .of_acts (acts_rawBytes w c b)

theorem ext_closeFromClient (w : World) (c : String) : Ext c w (closeFromClient w c) := by
  intro hw
  obtain ⟨hr, new, he, hp⟩ := Ext.of_acts (acts_closeFromClientRaw w c) hw
  refine ⟨RegOK.of_nodes (w := closeFromClientRaw w c) rfl hr, ?_⟩
  refine ⟨new.filter (fun e => e.1 != c || e.2 == .closed), ?_, ?_⟩
  · simp only [closeFromClient, he]
    simp
  · intro e hm
    exact hp e (List.mem_filter.mp hm).1

/-! ### `Keep` -/

/-- the statement of `C18_confined_sessions`, as a relation -/
def Keep (c : String) (w w' : World) : Prop :=
  ∀ j sid, sid ≠ "S" ++ c → sid ∈ (w.node j).reg.map (·.id) → sid ∈ (w'.node j).reg.map (·.id)

theorem Keep.refl (c : String) (w : World) : Keep c w w := fun _ _ _ h => h

theorem Keep.trans {c : String} {a b d : World} (h1 : Keep c a b) (h2 : Keep c b d) : Keep c a d :=
  fun j sid hne h => h2 j sid hne (h1 j sid hne h)

theorem Keep.of_sameReg {w w' : World} (h : SameReg w w') (c : String) : Keep c w w' := by
  intro j sid _ hm
  rw [h.ids j]; exact hm

theorem Keep.of_nodes {c : String} {w w' : World} (h : w'.nodes = w.nodes) : Keep c w w' := by
  intro j sid _ hm
  rw [node_congr h]; exact hm

theorem keep_shutdown (w : World) (i : Nat) (c : String) : Keep c w (w.shutdownSession i ("S" ++ c)) :=
  fun j sid hne h => shutdown_keeps w i _ j sid h (Or.inl hne)

theorem keep_register (c : String) (w : World) (i : Nat) (s : Sess) :
    Keep c w (w.setNode i { w.node i with reg := (w.node i).reg ++ [s] }) := by
  intro j sid _ hm
  rw [node_setNode]
  split
  · rename_i h
    rw [h.1] at hm
    simp only [List.map_append, List.mem_append]
    exact Or.inl hm
  · exact hm

theorem Keep.of_acts {c : String} {w w' : World} (h : Acts c w w') : Keep c w w' :=
  h.rel (refl := Keep.refl c) (trans := Keep.trans) (moves := fun h => Keep.of_sameReg (.of_moves h) c)
    (frame := fun hn _ _ => Keep.of_nodes hn)
    (disconnected := fun w i s hs => Keep.of_sameReg (SameReg.setNode w i _
      (NodeRel.setSess (s' := { s with disconnected := true }) hs rfl (fun h => h))) c)
    (shutdown := fun w i => keep_shutdown w i c) (sessDelete := fun w i sid => Keep.of_sameReg (sr_sessDelete w i sid) c)
    (record := fun w i d _ => Keep.of_sameReg ((sr_tick w).trans (sr_setNode_reg _ i { w.node i with dist := d } rfl)) c)
    (broadcast := fun w i ev => Keep.of_sameReg (sr_broadcast w i ev) c) (register := fun w i s _ _ => keep_register c w i s)

theorem keep_rawBytes (w : World) (c : String) (b : Wire.Bytes) : Keep c w (rawBytes w c b).1 :=
  .of_acts (acts_rawBytes w c b)

theorem keep_closeFromClient (w : World) (c : String) : Keep c w (closeFromClient w c) :=
  (Keep.of_acts (acts_closeFromClientRaw w c)).trans (Keep.of_nodes rfl)

end Wasp.Broker.AgentF
