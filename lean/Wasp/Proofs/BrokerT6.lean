import Wasp.Model.Broker
import Wasp.Proofs.BrokerD
import Wasp.Proofs.BrokerC
/-! What a QoS 0 delivery and a SUBSCRIBE write on one node, for Wasp/Properties/E2E.lean. `CM n n'`: the registered sessions
    keep connection and mount point, which is all `deliveries0` reads of the registry. -/
namespace Wasp.Broker
open Wasp.Dist Wasp.Topic

/-- what `send` writes for QoS 0 recipients: one PUBLISH per recipient whose session is registered -/
def deliveries0 (n : Node) (rcpt : List (String × Int)) (p : Pub) : List (String × Pkt) :=
  rcpt.filterMap (fun r => (n.sess r.1).map (fun s =>
    (s.conn, Pkt.publish (trimMountPoint s.mount p.topic) p.payload 0 p.retain p.dup 0)))

end Wasp.Broker

namespace Wasp.Broker.AgentT6
open Wasp.Broker Wasp.Dist Wasp.Topic Wasp.Broker.AgentC

/-- `n'` registers the same session ids as `n`, each with the same connection and mount point -/
def CM (n n' : Node) : Prop :=
  ∀ r, (n'.sess r).map (fun s => (s.conn, s.mount)) = (n.sess r).map (fun s => (s.conn, s.mount))

theorem CM.refl (n : Node) : CM n n := fun _ => rfl

theorem CM.trans {a b c : Node} (h1 : CM a b) (h2 : CM b c) : CM a c := fun r => (h2 r).trans (h1 r)

theorem CM.of_reg_eq {n n' : Node} (h : n'.reg = n.reg) : CM n n' := by
  intro r; simp only [Node.sess, h]

theorem CM.setSess {n : Node} {sid : String} {s s' : Sess} (h : n.sess sid = some s)
    (hid : s'.id = s.id) (hc : s'.conn = s.conn) (hm : s'.mount = s.mount) : CM n (n.setSess s') := by
  have hsid : s.id = sid := sess_some_id h
  intro r
  by_cases hr : r = sid
  · subst hr
    rw [sess_setSess n r s s' h (by rw [hid, hsid]), h]
    simp [hc, hm]
  · rw [sess_setSess_ne n s' r (by rw [hid, hsid]; exact hr)]

theorem CM.extendDeadline (w : World) (i : Nat) (sid : String) :
    CM (w.node i) ((w.extendDeadline i sid).node i) := by
  by_cases hi : i < w.nodes.length
  · cases hs : (w.node i).sess sid with
    | none => simp only [World.extendDeadline, hs]; exact CM.refl _
    | some s =>
      rw [extendDeadline_node w i hi sid s hs]
      exact CM.setSess hs rfl rfl rfl
  · have : w.extendDeadline i sid = w := by
      simp only [World.extendDeadline]
      cases (w.node i).sess sid with
      | none => rfl
      | some s => exact setNode_ge _ _ _ (by omega)
    rw [this]; exact CM.refl _

theorem CM.sess_some {n n' : Node} (h : CM n n') {r : String} {s : Sess} (hs : n.sess r = some s) :
    ∃ s', n'.sess r = some s' ∧ s'.conn = s.conn ∧ s'.mount = s.mount := by
  have := h r
  rw [hs] at this
  cases hs' : n'.sess r with
  | none => simp [hs'] at this
  | some s' =>
    simp only [hs', Option.map_some, Option.some.injEq, Prod.mk.injEq] at this
    exact ⟨s', rfl, this.1, this.2⟩

theorem deliveries0_congr {n n' : Node} (h : CM n n') (rcpt : List (String × Int)) (p : Pub) :
    deliveries0 n' rcpt p = deliveries0 n rcpt p := by
  unfold deliveries0
  congr 1
  funext r
  have := h r.1
  cases h1 : n.sess r.1 <;> cases h2 : n'.sess r.1 <;> simp_all

@[simp] theorem deliveries0_nil (n : Node) (p : Pub) : deliveries0 n [] p = [] := rfl

theorem send_skip (w : World) (i : Nat) (sid : String) (q : Int) (rest : List (String × Int)) (p : Pub)
    (hs : (w.node i).sess sid = none) : w.send i ((sid, q) :: rest) p = w.send i rest p := by
  simp [World.send, hs]

theorem send_all_qos0 (i : Nat) (p : Pub) (rcpt : List (String × Int)) :
    ∀ w : World, i < w.nodes.length → (∀ r ∈ rcpt, r.2 = 0) →
      (w.send i rcpt p).out = w.out ++ deliveries0 (w.node i) rcpt p := by
  induction rcpt with
  | nil => intro w _ _; simp [World.send]
  | cons r rest ih =>
    intro w hi hq
    obtain ⟨sid, q⟩ := r
    have hq0 : q = 0 := hq (sid, q) (by simp)
    subst hq0
    have hrest : ∀ r ∈ rest, r.2 = 0 := fun r hr => hq r (by simp [hr])
    cases hs : (w.node i).sess sid with
    | none =>
      rw [send_skip w i sid 0 rest p hs, ih w hi hrest]
      simp [deliveries0, hs]
    | some s =>
      have hstep : w.send i ((sid, 0) :: rest) p =
          World.send ((w.extendDeadline i sid).emit s.conn
            (.publish (trimMountPoint s.mount p.topic) p.payload 0 p.retain p.dup 0)) i rest p := by
        simp [World.send, hs]
      rw [hstep, ih _ (by simpa using hi) hrest]
      simp only [emit_out, extendDeadline_out, emit_node]
      rw [deliveries0_congr (CM.extendDeadline w i sid)]
      simp [deliveries0, hs]

theorem dedupNat_const (a : Nat) (l : List Nat) (h : ∀ x ∈ l, x = a) :
    dedupNat l = if l = [] then [] else [a] := by
  induction l with
  | nil => simp [dedupNat]
  | cons x rest ih =>
    have hx : x = a := h x (by simp)
    subst hx
    have ih' := ih (fun y hy => h y (by simp [hy]))
    simp only [dedupNat, ih']
    split <;> simp

theorem nodeIndexOfPeer_single (w : World) (hlen : w.nodes.length = 1) :
    nodeIndexOfPeer w (w.node 0).peer = some 0 := by
  obtain ⟨n0, hn0⟩ := List.length_eq_one_iff.1 hlen
  simp [nodeIndexOfPeer, World.node, hn0, List.findIdx?_cons]

theorem mem_subByPattern' {st : State} {topic : String} {u : Sub} (h : u ∈ subByPattern st topic) :
    ∃ kl ∈ st.subs, u ∈ kl.2 := by
  simp only [subByPattern, List.mem_flatMap, List.mem_filter] at h
  obtain ⟨kl, ⟨hkl, _⟩, hu, _⟩ := h
  exact ⟨kl, hkl, hu⟩

theorem distribute_one (w : World) (hlen : w.nodes.length = 1) (p : Pub)
    (hpeer : ∀ kl ∈ (w.node 0).dist.subs, ∀ u ∈ kl.2, u.peer = (w.node 0).peer)
    (hne : subByPattern (w.node 0).dist p.topic ≠ [])
    (hlog : (w.node 0).logFailAll = false ∧ (w.node 0).logFailAt.contains (w.node 0).logCalls = false) :
    w.distribute 0 p =
      ((w.setNode 0 { w.node 0 with logCalls := (w.node 0).logCalls + 1, log := (w.node 0).log ++ [p] }).deliverLocal 0 p, true) := by
  have hpe : ∀ x ∈ (subByPattern (w.node 0).dist p.topic).map (·.peer), x = (w.node 0).peer := by
    intro x hx
    obtain ⟨u, hu, rfl⟩ := List.mem_map.1 hx
    obtain ⟨kl, hkl, hukl⟩ := mem_subByPattern' hu
    exact hpeer kl hkl u hukl
  have hne' : ¬ (List.map (·.peer) (subByPattern (w.node 0).dist p.topic) = []) := by simpa using hne
  rw [distribute_eq, dedupNat_const _ _ hpe, if_neg hne', List.foldl_cons, List.foldl_nil,
    distStep_go (nodeIndexOfPeer_single w hlen) (fun h => h.1 rfl), appendLog_of_accepts _ p (by rw [hlog.1, hlog.2]; rfl), if_pos rfl]

theorem distribute_single (w : World) (hlen : w.nodes.length = 1) (p : Pub)
    (hq0 : ∀ kl ∈ (w.node 0).dist.subs, ∀ u ∈ kl.2, u.qos = 0)
    (hpeer : ∀ kl ∈ (w.node 0).dist.subs, ∀ u ∈ kl.2, u.peer = (w.node 0).peer)
    (hlog : (w.node 0).logFailAll = false ∧ (w.node 0).logFailAt.contains (w.node 0).logCalls = false) :
    (w.distribute 0 p).1.out =
      w.out ++ deliveries0 (w.node 0)
        (((subByPattern (w.node 0).dist p.topic).filter (fun u => u.peer == (w.node 0).peer)).map
          (fun u => (u.session, u.qos))) p := by
  have hi : 0 < w.nodes.length := by omega
  by_cases hnil : subByPattern (w.node 0).dist p.topic = []
  · simp [distribute_eq, hnil, dedupNat]
  · rw [distribute_one w hlen p hpeer hnil hlog]
    dsimp only
    unfold World.deliverLocal
    simp only [node_setNode_self _ _ _ hi]
    rw [send_all_qos0 0 p _ _ (by simpa using hi)]
    · rw [node_setNode_self _ _ _ hi, setNode_out]
      exact congrArg _ (deliveries0_congr (CM.of_reg_eq (n := w.node 0) rfl) _ _)
    · intro r hr
      obtain ⟨u, hu, rfl⟩ := List.mem_map.1 hr
      obtain ⟨kl, hkl, hukl⟩ := mem_subByPattern' (List.mem_filter.1 hu).1
      exact hq0 kl hkl u hukl

theorem process_publish0 (w : World) (i : Nat) (sid : String) (s : Sess) (hs : (w.node i).sess sid = some s)
    (topic payload : String) (dup : Bool) (mid : Int) :
    (w.process i sid (.publish topic payload 0 false dup mid)).1 =
      (w.distribute i ⟨prefixMountPoint s.mount topic, payload, 0, false, dup⟩).1 := by
  rw [process_publish hs, if_pos rfl, publishJob_eq]
  dsimp only
  split <;> rfl

theorem mem_deliveries0 (n : Node) (rcpt : List (String × Int)) (p : Pub) (c : String) (pk : Pkt) :
    (c, pk) ∈ deliveries0 n rcpt p ↔
      ∃ x ∈ rcpt, ∃ r, n.sess x.1 = some r ∧ r.conn = c ∧
        pk = Pkt.publish (trimMountPoint r.mount p.topic) p.payload 0 p.retain p.dup 0 := by
  simp only [deliveries0, List.mem_filterMap, Option.map_eq_some_iff, Prod.mk.injEq]
  constructor
  · rintro ⟨x, hx, r, hr, hc, hp⟩; exact ⟨x, hx, r, hr, hc, hp.symm⟩
  · rintro ⟨x, hx, r, hr, hc, hp⟩; exact ⟨x, hx, r, hr, hc, hp.symm⟩

theorem drop_out {α : Type} (a b l : List α) (h : l = a ++ b) : l.drop a.length = b := by
  subst h; simp

theorem subCreate_frame (w : World) (i : Nat) (hi : i < w.nodes.length) (sid pat : String) (q : Int) :
    ((w.subCreate i sid pat q).node i).reg = (w.node i).reg ∧
    ((w.subCreate i sid pat q).node i).dist.topics = (w.node i).dist.topics ∧
    (w.subCreate i sid pat q).out = w.out ∧ (w.subCreate i sid pat q).nodes.length = w.nodes.length := by
  have hi' : i < (w.tick.1).nodes.length := hi
  have hn : w.tick.1.node i = w.node i := rfl
  simp only [World.subCreate, World.broadcast]
  -- the outer `setNode` first: tried on it, the proof `hi'` for the inner one makes the unifier unfold `setNode`
  rw [node_setNode_self (w.tick.1.setNode i _) i _ (by rw [setNode_length]; exact hi'), node_setNode_self _ _ _ hi']
  refine ⟨rfl, rfl, rfl, ?_⟩
  simp only [setNode_length]
  rfl


theorem subStep_frame (w : World) (i : Nat) (hi : i < w.nodes.length) (sid : String) (tq : String × Nat) :
    CM (w.node i) ((subStep w i sid tq).node i) ∧
    ((subStep w i sid tq).node i).dist.topics = (w.node i).dist.topics ∧
    (subStep w i sid tq).out = w.out ∧ (subStep w i sid tq).nodes.length = w.nodes.length := by
  obtain ⟨hreg, htop, hout, hlen⟩ := subCreate_frame w i hi sid tq.1 tq.2
  have hi1 : i < (w.subCreate i sid tq.1 tq.2).nodes.length := by rw [hlen]; exact hi
  have hcm : CM (w.node i) ((w.subCreate i sid tq.1 tq.2).node i) := CM.of_reg_eq hreg
  unfold subStep
  simp only
  cases hs : ((w.subCreate i sid tq.1 tq.2).node i).sess sid with
  | none => exact ⟨hcm, htop, hout, hlen⟩
  | some s' =>
    simp only
    split
    · exact ⟨hcm, htop, hout, hlen⟩
    · rw [node_setNode_self _ _ _ hi1]
      refine ⟨hcm.trans (CM.setSess hs rfl rfl rfl), htop, hout, ?_⟩
      rw [setNode_length, hlen]

theorem send_one_qos0 (w : World) (i : Nat) (sid : String) (p : Pub) :
    w.send i [(sid, 0)] p = match (w.node i).sess sid with
      | none => w
      | some s => (w.extendDeadline i sid).emit s.conn
          (.publish (trimMountPoint s.mount p.topic) p.payload 0 p.retain p.dup 0) := by
  cases hs : (w.node i).sess sid <;> simp [World.send, hs]

theorem fold_send_qos0 (i : Nat) (sid c m : String) (L : List Retained) :
    ∀ w : World, i < w.nodes.length →
      ((w.node i).sess sid).map (fun s => (s.conn, s.mount)) = some (c, m) →
      (L.foldl (fun w r => w.send i [(sid, 0)] ⟨r.topic, r.payload, r.qos, r.retain, r.dup⟩) w).out =
        w.out ++ L.map (fun r => (c, Pkt.publish (trimMountPoint m r.topic) r.payload 0 r.retain r.dup 0)) := by
  induction L with
  | nil => intro w _ _; simp
  | cons r rest ih =>
    intro w hi hs
    cases hs' : (w.node i).sess sid with
    | none => simp [hs'] at hs
    | some s =>
      simp only [hs', Option.map_some, Option.some.injEq, Prod.mk.injEq] at hs
      obtain ⟨hc, hm⟩ := hs
      simp only [List.foldl_cons, List.map_cons]
      rw [send_one_qos0, hs']
      simp only
      rw [ih _ (by simpa using hi)]
      · simp [hc, hm]
      · rw [emit_node, CM.extendDeadline w i sid sid, hs']
        simp [hc, hm]

theorem replayStep_qos0 (w : World) (i : Nat) (hi : i < w.nodes.length) (sid c m pt : String)
    (hs : ((w.node i).sess sid).map (fun s => (s.conn, s.mount)) = some (c, m)) :
    (replayStep w i sid (pt, 0)).out =
      w.out ++ (topicGet (w.node i).dist pt).map (fun r => (c, Pkt.publish (trimMountPoint m r.topic) r.payload 0 r.retain r.dup 0)) :=
  fold_send_qos0 i sid c m (topicGet (w.node i).dist pt) w hi hs

end Wasp.Broker.AgentT6
