import Wasp.Generated.SessionLit
import Wasp.Proofs.GoLit
/-!
# The per-session filter list AS WRITTEN (`wasp/sessions/session.go`, `AddTopic` / `RemoveTopic`)

`Wasp.Generated.SessionLit.addTopic / removeTopic` are regenerated from the Go source on every run. The `range`
loops run over a snapshot of `s.topics` taken at loop entry (Go evaluates the range expression once), every index
and slice expression is guarded (`none` = the Go code would panic).

AddTopic never panics and appends the filter unless it is there (`addTopic_eq`). RemoveTopic's loop is the recursion
`remLoop` over the snapshot (`removeTopic_eq`): a position that holds the filter gets the last element of the list as it
is by then, and the list is cut by one (`swapOut`). Without duplicates that never panics and gives a permutation of
`filter (· != t)` (`swapOut_perm`); with duplicates it can index out of range (Properties/C01SessLit.lean).
-/
namespace Wasp.SessionLit
open Wasp.Generated.SessionLit

abbrev Topic := List Char

/-! ### AddTopic -/

theorem add_turn (s : Session) (t : Topic) (pre : List Topic) (x : Topic) (rest : List Topic) :
    addTopic_loop1 s t (pre ++ x :: rest) (pre.length : Int) =
      if t = x then some (Go.Ctl.ret s) else some (Go.Ctl.next ((pre.length : Int) + 1)) := by
  simp only [addTopic_loop1, Go.lt_len_append_length, Go.inRange_append_length, Go.index_append_length, if_true,
    Go.eq, decide_eq_true_eq]

theorem add_loop (s : Session) (t : Topic) :
    ∀ (rest pre : List Topic),
      Go.loop (rest.length + 1) (pre.length : Int) (addTopic_loop1 s t (pre ++ rest)) =
        if t ∈ rest then some (Go.Ctl.ret s) else some (Go.Ctl.done (Go.len (pre ++ rest))) := by
  intro rest
  induction rest with
  | nil =>
    intro pre
    simp [Go.loop, addTopic_loop1, Go.lt_len_length]
  | cons x rest ih =>
    intro pre
    have := ih (pre ++ [x])
    simp only [List.append_assoc, List.singleton_append, List.length_append, List.length_singleton,
      Int.natCast_add, Int.natCast_one] at this
    rw [List.length_cons, Go.loop, add_turn]
    by_cases e : t = x
    · simp [e]
    · simp only [e, if_false, List.mem_cons, false_or, this]

/-- (a) on EVERY topic list the code as written does not panic and adds `t` unless it is present -/
theorem addTopic_eq (topics : List Topic) (t : Topic) :
    addTopic ⟨topics⟩ t = some ⟨if topics.contains t then topics else topics ++ [t]⟩ := by
  have h := add_loop ⟨topics⟩ t topics []
  simp only [List.nil_append, List.length_nil, Int.natCast_zero] at h
  simp only [addTopic, Int.toNat_natCast, h, List.contains_iff_mem]
  by_cases m : t ∈ topics <;> simp [m]

/-! ### RemoveTopic -/

/-- what one matching turn does: the last element goes into the hole, the list is cut by one -/
def swapOut (l : List Topic) (j : Nat) : List Topic :=
  (l.set j (l[l.length - 1]?.getD default)).take (l.length - 1)

/-- RemoveTopic's loop over what is left of the snapshot: `k` the position reached, `cur` the list by now,
    `none` = `s.topics[idx]` out of range -/
def remLoop (new : Topic) : List Topic → Nat → List Topic → Option (List Topic)
  | [], _, cur => some cur
  | x :: rest, k, cur =>
    if x = new then
      if k < cur.length then remLoop new rest (k + 1) (swapOut cur k) else none
    else remLoop new rest (k + 1) cur

theorem rem_turn (new : Topic) (pre : List Topic) (x : Topic) (rest : List Topic) (s : Session) :
    removeTopic_loop1 new (pre ++ x :: rest) (s, (pre.length : Int)) =
      if x = new then
        if pre.length < s.topics.length then
          some (Go.Ctl.next (⟨swapOut s.topics pre.length⟩, (pre.length : Int) + 1))
        else none
      else some (Go.Ctl.next (s, (pre.length : Int) + 1)) := by
  simp only [removeTopic_loop1, Go.lt_len_append_length, Go.inRange_append_length, Go.index_append_length,
    if_true, Go.eq, decide_eq_true_eq]
  by_cases e : x = new
  · by_cases hk : pre.length < s.topics.length
    · have h1 : Go.inRange s.topics (Go.len s.topics - 1) = true := by rw [Go.inRange_iff, Go.len_eq]; omega
      have h2 : Go.inRange s.topics (pre.length : Int) = true := by rw [Go.inRange_iff]; omega
      have h3 : Go.sliceToOk (Go.set s.topics (pre.length : Int) (Go.index s.topics (Go.len s.topics - 1)))
          (Go.len (Go.set s.topics (pre.length : Int) (Go.index s.topics (Go.len s.topics - 1))) - 1) = true := by
        rw [Go.sliceToOk_iff, Go.len_eq, Go.set_natCast, List.length_set]; omega
      simp only [e, hk, h1, h2, h3, if_true, Bool.and_self, Option.bind_some]
      simp only [swapOut, Go.sliceTo, Go.set, Go.index, Go.toNat_len_sub_one, Int.toNat_natCast, List.length_set]
    · have h2 : Go.inRange s.topics (pre.length : Int) = false := by
        rw [← Bool.not_eq_true, Go.inRange_iff]; omega
      simp [e, hk, h2]
  · simp [e]

theorem rem_loop (new : Topic) : ∀ (rest pre cur : List Topic),
    Go.loop (rest.length + 1) (⟨cur⟩, (pre.length : Int)) (removeTopic_loop1 new (pre ++ rest))
      = (remLoop new rest pre.length cur).map fun r => Go.Ctl.done (⟨r⟩, Go.len (pre ++ rest)) := by
  intro rest
  induction rest with
  | nil =>
    intro pre cur
    simp [Go.loop, removeTopic_loop1, Go.lt_len_length, remLoop]
  | cons x rest ih =>
    intro pre cur
    have := fun cur => ih (pre ++ [x]) cur
    simp only [List.append_assoc, List.singleton_append, List.length_append, List.length_singleton,
      Int.natCast_add, Int.natCast_one] at this
    rw [List.length_cons, Go.loop, rem_turn, remLoop]
    by_cases e : x = new
    · subst e
      by_cases hk : pre.length < cur.length
      · simp only [hk, if_true, this]
      · simp only [hk, if_true, if_false, Option.map_none]
    · simp only [e, if_false, this]

theorem removeTopic_eq (topics : List Topic) (new : Topic) :
    removeTopic ⟨topics⟩ new = (remLoop new topics 0 topics).map Session.mk := by
  have h := rem_loop new topics [] topics
  simp only [List.nil_append, List.length_nil, Int.natCast_zero] at h
  simp only [removeTopic, Int.toNat_natCast, h]
  cases remLoop new topics 0 topics <;> rfl

theorem remLoop_append (new : Topic) : ∀ (pre rest : List Topic) (k : Nat) (cur : List Topic), new ∉ pre →
    remLoop new (pre ++ rest) k cur = remLoop new rest (k + pre.length) cur := by
  intro pre
  induction pre with
  | nil => intro rest k cur _; rfl
  | cons x pre ih =>
    intro rest k cur h
    rw [List.mem_cons, not_or] at h
    have hx : ¬ x = new := fun e => h.1 e.symm
    rw [List.cons_append, remLoop, if_neg hx, ih rest (k + 1) cur h.2, List.length_cons]
    congr 1; omega

theorem remLoop_absent (new : Topic) (l : List Topic) (k : Nat) (cur : List Topic) (h : new ∉ l) :
    remLoop new l k cur = some cur := by
  have := remLoop_append new l [] k cur h
  rwa [List.append_nil] at this

theorem removeTopic_absent (topics : List Topic) (new : Topic) (h : new ∉ topics) :
    removeTopic ⟨topics⟩ new = some ⟨topics⟩ := by
  rw [removeTopic_eq, remLoop_absent new topics 0 topics h]; rfl

theorem removeTopic_once (pre post : List Topic) (new : Topic) (h1 : new ∉ pre) (h2 : new ∉ post) :
    removeTopic ⟨pre ++ new :: post⟩ new = some ⟨swapOut (pre ++ new :: post) pre.length⟩ := by
  have hk : 0 + pre.length < (pre ++ new :: post).length := by
    rw [List.length_append, List.length_cons]; omega
  rw [removeTopic_eq, remLoop_append new pre _ 0 _ h1, remLoop, if_pos rfl, if_pos hk,
    remLoop_absent new post _ _ h2, Nat.zero_add]
  rfl

/-! ### what `swapOut` is -/

theorem swapOut_concat (init : List Topic) (lst : Topic) (k : Nat) :
    swapOut (init ++ [lst]) k = init.set k lst := by
  simp only [swapOut, List.length_append, List.length_singleton, Nat.add_sub_cancel, List.getElem?_concat_length,
    Option.getD_some, List.take_set, List.take_left']

theorem swapOut_last (pre : List Topic) (new : Topic) :
    swapOut (pre ++ [new]) pre.length = pre := by
  rw [swapOut_concat, List.set_eq_of_length_le (Nat.le_refl _)]

theorem swapOut_middle (pre post : List Topic) (new lst : Topic) :
    swapOut (pre ++ new :: (post ++ [lst])) pre.length = pre ++ lst :: post := by
  rw [← List.cons_append, ← List.append_assoc, swapOut_concat, List.set_append_right _ _ (Nat.le_refl _),
    Nat.sub_self, List.set_cons_zero]

theorem swapOut_perm (pre post : List Topic) (t : Topic) :
    (swapOut (pre ++ t :: post) pre.length).Perm (pre ++ post) := by
  rcases List.eq_nil_or_concat post with rfl | ⟨post', lst, rfl⟩
  · rw [swapOut_last, List.append_nil]
  · rw [List.concat_eq_append, swapOut_middle]
    exact (List.perm_append_singleton lst post').symm.append_left pre

end Wasp.SessionLit
