import Wasp.Model.BrokerOps
import Wasp.Proofs.BrokerT7
import Wasp.Proofs.BrokerT9
import Wasp.Properties.C07
import Wasp.Properties.C17
/-!
For Properties/E2ERetainWill: the retained store of every reachable world is well shaped (`KInv`, `topOK_reachable`),
the store after a retained publish (`retained_world`, `storeAfter`), what the teardown of a session does to the registry
and to the subscriptions, and where a replayed PUBLISH comes from (`replay_entry`).
-/
namespace Wasp.Broker.AgentT10
open Wasp.Broker Wasp.Dist Wasp.Topic Wasp.Crdt

/-- shape of a node's retained store: one entry per topic, every message stored under its own topic, and every
    topic contains a '/' (it was stored as `prefixMountPoint mount name`) -/
structure TopOK (m : List (String × Retained)) : Prop where
  nodup : (m.map (·.1)).Nodup
  own : ∀ kr ∈ m, kr.2.topic = kr.1
  slash : ∀ kr ∈ m, '/' ∈ kr.1.toList

theorem topOK_nil : TopOK [] := ⟨by simp, (fun _ h => by cases h), (fun _ h => by cases h)⟩

theorem TopOK.assign {m : List (String × Retained)} (h : TopOK m) (t : String) (r : Retained) (hr : r.topic = t)
    (hs : '/' ∈ t.toList) : TopOK (topicsAssign t r m) := by
  refine ⟨topicsAssign_nodup t r m h.nodup, fun kr hkr => ?_, fun kr hkr => ?_⟩
  · rcases Wasp.Dist.topicsAssign_mem hkr with e | hm
    · subst e; exact hr
    · exact h.own kr hm
  · rcases Wasp.Dist.topicsAssign_mem hkr with e | hm
    · subst e; exact hs
    · exact h.slash kr hm

theorem TopOK.key_inj {m : List (String × Retained)} (h : TopOK m) {a b : String × Retained} (ha : a ∈ m) (hb : b ∈ m)
    (hk : a.1 = b.1) : a = b := by
  have hn := h.nodup
  clear h
  induction m with
  | nil => cases ha
  | cons x rest ih =>
    simp only [List.map_cons, List.nodup_cons] at hn
    rcases List.mem_cons.mp ha with ha | ha <;> rcases List.mem_cons.mp hb with hb | hb
    · rw [ha, hb]
    · exfalso; apply hn.1; rw [← ha, hk]; exact List.mem_map_of_mem (f := (·.1)) hb
    · exfalso; apply hn.1; rw [← hb, ← hk]; exact List.mem_map_of_mem (f := (·.1)) ha
    · exact ih ha hb hn.2

/-- a stored topic that contains a '/' and is matched by a filter inside mount point `m` lies inside `m`:
    it is the mount-prefixed form of what `trimMountPoint` returns -/
theorem key_of_match (m K f : String) (hwf : wfMount m) (hs : '/' ∈ K.toList)
    (hmatch : mqttMatch (levels (prefixMountPoint m f)) (levels K) = true) :
    K = prefixMountPoint m (trimMountPoint m K) := by
  rw [C17_prefix_levels m f hwf] at hmatch
  have hj := joinL_levels K
  cases hl : levels K with
  | nil =>
    rw [hl] at hj
    simp only [joinL] at hj
    rw [← hj] at hs; cases hs
  | cons a rest =>
    rw [hl, AgentA.match_cons_lit _ _ _ _ hwf.2.2.1 hwf.2.2.2] at hmatch
    simp only [Bool.and_eq_true, beq_iff_eq] at hmatch
    obtain ⟨hma, _⟩ := hmatch
    subst hma
    rw [hl] at hj
    simp only [joinL] at hj
    by_cases hr : rest = []
    · simp only [hr, if_true, List.append_nil] at hj
      rw [← hj] at hs
      exact absurd hs hwf.2.1
    · simp only [hr, if_false] at hj
      apply String.toList_inj.mp
      rw [AgentA.prefix_toList]
      unfold trimMountPoint
      rw [String.toList_ofList, ← hj]
      have : m.length + 1 = (m.toList ++ ['/']).length := by simp [String.length_toList]
      rw [this, show m.toList ++ '/' :: joinL rest = (m.toList ++ ['/']) ++ joinL rest by simp, List.drop_left]
      simp

theorem sframe_dist : AgentA.SFrame (fun n : Node => n.dist) := ⟨fun _ _ => rfl, fun _ _ _ => rfl, fun _ _ => rfl⟩

open Wasp.Broker.AgentD Wasp.Broker.AgentA in
theorem process_publish_retained (w : World) (i : Nat) (sid : String) (s : Sess) (hs : (w.node i).sess sid = some s)
    (topic payload : String) (dup : Bool) (mid : Int) :
    (w.process i sid (.publish topic payload 0 true dup mid)).1 =
      ((retainStep w i ⟨prefixMountPoint s.mount topic, payload, 0, true, dup⟩).distribute i
        ⟨prefixMountPoint s.mount topic, payload, 0, false, dup⟩).1 := by
  simp only [World.process, hs, if_true]
  rw [publishJob_eq]
  split <;> rfl

open Wasp.Broker.AgentD in
theorem retainStep_topics (w : World) (i : Nat) (hi : i < w.nodes.length) (p : Pub) (hp : p.retain = true) :
    (retainStep w i p).nodes.length = w.nodes.length ∧
    ((retainStep w i p).node i).dist.topics =
      (if p.payload = "" then topicDelete (w.node i).dist w.clock p.topic
       else topicSet (w.node i).dist w.clock p.topic p.payload p.qos true p.dup).1.topics := by
  unfold retainStep
  simp only [hp, if_true]
  refine ⟨by simp [World.tick], ?_⟩
  rw [broadcast_dist, node_setNode_self _ _ _ (show i < w.tick.1.nodes.length from hi)]
  rfl

/-- the retained store of node i after session `sid` of mount point `s.mount` published `payload` retained on `topic` -/
theorem retained_world (w : World) (i : Nat) (hi : i < w.nodes.length) (sid : String) (s : Sess)
    (hs : (w.node i).sess sid = some s) (topic payload : String) (dup : Bool) (mid : Int) :
    (w.process i sid (.publish topic payload 0 true dup mid)).1.nodes.length = w.nodes.length ∧
    ((w.process i sid (.publish topic payload 0 true dup mid)).1.node i).dist.topics =
      (if payload = "" then topicDelete (w.node i).dist w.clock (prefixMountPoint s.mount topic)
       else topicSet (w.node i).dist w.clock (prefixMountPoint s.mount topic) payload 0 true dup).1.topics := by
  rw [process_publish_retained w i sid s hs]
  have hd := AgentA.distribute_frame sframe_dist appendLog_dist
    (retainStep w i ⟨prefixMountPoint s.mount topic, payload, 0, true, dup⟩) i
    ⟨prefixMountPoint s.mount topic, payload, 0, false, dup⟩
  have hr := retainStep_topics w i hi ⟨prefixMountPoint s.mount topic, payload, 0, true, dup⟩ rfl
  refine ⟨hd.1.trans hr.1, ?_⟩
  have := hd.2 i
  simp only at this
  rw [this, hr.2]

/-- observations of a node that writes to the replicated state and the gossip queue do not touch -/
structure TFrame {α : Type} (F : Node → α) : Prop where
  dist : ∀ (n : Node) d, F { n with dist := d } = F n
  pending : ∀ (n : Node) p, F { n with pending := p } = F n

section tframes
open Wasp.Broker.AgentA
variable {α : Type} {F : Node → α}

theorem broadcast_tframe (hF : TFrame F) (w : World) (i : Nat) (ev : Event) : WFrame F w (w.broadcast i ev) :=
  WFrame.setNode _ _ _ (hF.pending _ _)

theorem setDist_tframe (hF : TFrame F) (w : World) (i : Nat) (d : State) :
    WFrame F w (w.setNode i { w.node i with dist := d }) :=
  WFrame.setNode _ _ _ (hF.dist _ _)

theorem subDelete_tframe (hF : TFrame F) (w : World) (i : Nat) (sid pat : String) : WFrame F w (w.subDelete i sid pat) :=
  distWrite_rel (R := WFrame F) (WFrame.refl F) WFrame.trans (tick_frame F) (setDist_tframe hF) (broadcast_tframe hF) w i _ _

theorem sessDelete_tframe (hF : TFrame F) (w : World) (i : Nat) (sid : String) : WFrame F w (w.sessDelete i sid) :=
  sessDelete_rel (R := WFrame F) (WFrame.refl F) WFrame.trans (tick_frame F) (setDist_tframe hF) (broadcast_tframe hF) w i sid

theorem tdBase_tframe (hF : TFrame F) (w : World) (i : Nat) (s : Sess) :
    WFrame F (AgentD.unreg w i s.id) (AgentD.tdBase w i s) := by
  unfold AgentD.tdBase
  exact foldl_inv (WFrame F (AgentD.unreg w i s.id)) _ _ _ (WFrame.of_nodes F rfl)
    (fun b a _ hb => hb.trans (subDelete_tframe hF b i s.id a))

theorem teardown_tframe (hF : TFrame F) (w : World) (i : Nat) (s : Sess) :
    WFrame F (AgentD.unreg w i s.id) (teardown w i s).1 := by
  rw [AgentD.teardown_eq]
  split
  · exact WFrame.after (sessDelete_tframe hF _ _ _) (tdBase_tframe hF w i s)
  · exact tdBase_tframe hF w i s

end tframes

/-- everything about a node except its replicated state and its gossip queue -/
def core (n : Node) : Nat × List Sess × Bool × Bool × List Nat × Nat :=
  (n.peer, n.reg, n.failed, n.logFailAll, n.logFailAt, n.logCalls)

theorem TFrame.core : TFrame core := ⟨fun _ _ => rfl, fun _ _ => rfl⟩

theorem teardown_core (w : World) (i : Nat) (hi : i < w.nodes.length) (s : Sess) :
    (teardown w i s).1.nodes.length = w.nodes.length ∧
    core ((teardown w i s).1.node i) =
      core { w.node i with reg := (w.node i).reg.filter (fun x => x.id != s.id) } := by
  have h := teardown_tframe TFrame.core w i s
  refine ⟨h.1.trans (by simp [AgentD.unreg]), ?_⟩
  rw [h.2 i]
  unfold AgentD.unreg
  rw [node_setNode_self _ _ _ hi]

theorem subDelete_node_dist (w : World) (i : Nat) (hi : i < w.nodes.length) (sid t : String) :
    ((w.subDelete i sid t).node i).dist = (Wasp.Dist.subDelete (w.node i).dist w.clock sid t).1 := by
  have e : w.subDelete i sid t =
      ((w.tick.1).setNode i { (w.tick.1).node i with
          dist := (Wasp.Dist.subDelete ((w.tick.1).node i).dist w.clock sid t).1 }).broadcast i
        (Wasp.Dist.subDelete ((w.tick.1).node i).dist w.clock sid t).2 := rfl
  rw [e, AgentD.broadcast_dist, node_setNode_self _ _ _ (show i < w.tick.1.nodes.length from hi)]
  rfl

/-- a subscription stored after the teardown: QoS and peer as before (tombstones: QoS 0, the store's own peer), and
    if it is live it was stored, under the same key, before -/
def SubOld (m0 : List (String × List Sub)) (P : Nat) (k : String) (x : Sub) : Prop :=
  (x.qos = 0 ∧ x.peer = P) ∧ (isAdded x.stamp = true → ∃ kl ∈ m0, kl.1 = k ∧ x ∈ kl.2)

theorem tdBase_subs (w : World) (i : Nat) (hi : i < w.nodes.length) (s : Sess)
    (hq : ∀ kl ∈ (w.node i).dist.subs, ∀ u ∈ kl.2, u.qos = 0 ∧ u.peer = (w.node i).dist.peer) :
    (AgentD.tdBase w i s).nodes.length = w.nodes.length ∧
    ((AgentD.tdBase w i s).node i).dist.peer = (w.node i).dist.peer ∧
    ((AgentD.tdBase w i s).node i).dist.sessions = (w.node i).dist.sessions ∧
    ∀ kl ∈ ((AgentD.tdBase w i s).node i).dist.subs, ∀ x ∈ kl.2,
      SubOld (w.node i).dist.subs (w.node i).dist.peer kl.1 x := by
  unfold AgentD.tdBase
  simp only
  apply foldl_inv (P := fun (w' : World) => w'.nodes.length = w.nodes.length ∧
    (w'.node i).dist.peer = (w.node i).dist.peer ∧ (w'.node i).dist.sessions = (w.node i).dist.sessions ∧
    ∀ kl ∈ (w'.node i).dist.subs, ∀ x ∈ kl.2, SubOld (w.node i).dist.subs (w.node i).dist.peer kl.1 x)
  · have hn : World.node { (w.setNode i { w.node i with reg := (w.node i).reg.filter (fun x => x.id != s.id) }).emit s.conn .closed with
        conns := ((w.setNode i { w.node i with reg := (w.node i).reg.filter (fun x => x.id != s.id) }).emit s.conn .closed).conns.filter
          (fun (c : String × Nat) => c.1 != s.conn) } i = { w.node i with reg := (w.node i).reg.filter (fun x => x.id != s.id) } :=
      node_setNode_self _ _ _ hi
    refine ⟨by simp [World.emit], ?_⟩
    rw [hn]
    exact ⟨rfl, rfl, fun kl hkl x hx => ⟨hq kl hkl x hx, fun _ => ⟨kl, hkl, rfl, hx⟩⟩⟩
  · intro b t _ ⟨hlen, hpeer, hsess, hsubs⟩
    have hib : i < b.nodes.length := by rw [hlen]; exact hi
    refine ⟨by simp [hlen], ?_, ?_, ?_⟩
    · rw [subDelete_node_dist b i hib]; exact hpeer
    · rw [subDelete_node_dist b i hib]; exact hsess
    · rw [AgentD.subDelete_node_subs b i hib]
      refine Wasp.Dist.subsSet_forall _ _ _ hsubs ⟨⟨rfl, hpeer⟩, fun h => ?_⟩
      rw [AgentD.tomb_not_added] at h
      cases h

theorem sessDelete_len (w : World) (i : Nat) (sid : String) : (w.sessDelete i sid).nodes.length = w.nodes.length := by
  simp only [World.sessDelete]
  split <;> simp [World.tick]

theorem teardown_subs (w : World) (i : Nat) (hi : i < w.nodes.length) (s : Sess)
    (hq : ∀ kl ∈ (w.node i).dist.subs, ∀ u ∈ kl.2, u.qos = 0 ∧ u.peer = (w.node i).dist.peer) :
    ∀ kl ∈ ((teardown w i s).1.node i).dist.subs, ∀ x ∈ kl.2,
      SubOld (w.node i).dist.subs (w.node i).dist.peer kl.1 x := by
  have hb := (tdBase_subs w i hi s hq).2.2.2
  rw [AgentD.teardown_eq]
  split
  · simp only
    rw [AgentD.sessDelete_node_subs]
    exact hb
  · exact hb

/-- the will is not suppressed when the session's record is still the current one for its client id -/
theorem teardown_continue (w : World) (i : Nat) (hi : i < w.nodes.length) (s : Sess)
    (hq : ∀ kl ∈ (w.node i).dist.subs, ∀ u ∈ kl.2, u.qos = 0 ∧ u.peer = (w.node i).dist.peer)
    (hcur : ∀ md ∈ sessByClientID (w.node i).dist s.mount s.client, md.id = s.id) :
    (teardown w i s).2 = false := by
  have hb := (tdBase_subs w i hi s hq).2.2.1
  have he : sessByClientID ((AgentD.tdBase w i s).node i).dist s.mount s.client =
      sessByClientID (w.node i).dist s.mount s.client := by
    simp only [sessByClientID, sessFilter, hb]
  rw [AgentD.teardown_eq, he]
  simp only [List.any_eq_false, bne_iff_ne, ne_eq, Decidable.not_not]
  exact hcur

theorem subsLookup_of_mem {m : List (String × List Sub)} (hk : (m.map (·.1)).Nodup) {kl : String × List Sub}
    (h : kl ∈ m) : subsLookup kl.1 m = kl.2 := by
  induction m with
  | nil => cases h
  | cons x rest ih =>
    obtain ⟨k, l⟩ := x
    simp only [List.map_cons, List.nodup_cons] at hk
    simp only [subsLookup]
    rcases List.mem_cons.mp h with e | hm
    · subst e; simp
    · have hne : k ≠ kl.1 := fun e => hk.1 (e ▸ List.mem_map_of_mem (f := (·.1)) hm)
      rw [if_neg hne]
      exact ih hk.2 hm

/-- a subscription of ANOTHER session is still stored, under the same key, after the teardown of `s` -/
theorem teardown_keeps_sub (w : World) (i : Nat) (s : Sess) (hk : ((w.node i).dist.subs.map (·.1)).Nodup)
    (kl : String × List Sub) (hkl : kl ∈ (w.node i).dist.subs) (u : Sub) (hu : u ∈ kl.2) (hne : u.session ≠ s.id) :
    ∃ kl' ∈ ((teardown w i s).1.node i).dist.subs, kl'.1 = kl.1 ∧ u ∈ kl'.2 := by
  have h := ((AgentD.ds_teardown w i s) i).2 kl.1 u.session hne
  rw [subsLookup_of_mem hk hkl] at h
  have hm : u ∈ (subsLookup kl.1 ((teardown w i s).1.node i).dist.subs).filter (fun x => x.session == u.session) := by
    rw [h]; exact List.mem_filter.mpr ⟨hu, by simp⟩
  have hm' := (List.mem_filter.mp hm).1
  exact ⟨_, Wasp.Dist.subsLookup_mem hm', rfl, hm'⟩

theorem publishJob_noretain (w : World) (i : Nat) (p : Pub) (hp : p.retain = false) :
    w.publishJob i p id = (w.distribute i p).1 := by
  obtain ⟨t, pl, q, r, d⟩ := p
  simp only at hp
  subst hp
  simp only [World.publishJob, Bool.false_eq_true, if_false]
  split <;> rfl

section reachableInvariant
open Wasp.Wire Wasp.Broker.AgentD

/-- every message of the list names a topic containing a '/' -/
def RetOK (l : List Retained) : Prop := ∀ r ∈ l, '/' ∈ r.topic.toList

/-- every inbound QoS 2 publish awaiting its PUBREL names a topic containing a '/' -/
def StoredOK (l : List (Ack.Key × Stored)) : Prop :=
  ∀ e ∈ l, ∀ a c pub m, e.2 = Stored.inbound a c pub m → '/' ∈ pub.topic.toList

theorem retOK_nil : RetOK [] := fun _ h => by cases h

theorem mergeRetained_top (l : List Retained) : ∀ (m : List (String × Retained)), TopOK m → RetOK l →
    TopOK (mergeRetained l m) := by
  induction l with
  | nil => intro m hm _; exact hm
  | cons r rest ih =>
    intro m hm hl
    simp only [mergeRetained]
    split
    · exact hm
    · split
      · exact hm
      · have key : ∀ (c : Prop) [Decidable c], TopOK (if c then topicsAssign r.topic r m else m) := by
          intro c _
          split
          · exact hm.assign r.topic r rfl (hl r (by simp))
          · exact hm
        exact ih _ (key _) (fun x hx => hl x (by simp [hx]))

theorem merge_top (st : State) (ev : Event) (h : TopOK st.topics) (he : RetOK ev.retained) :
    TopOK (merge st ev).topics := mergeRetained_top _ _ h he

theorem foldl_merge_top (evs : List Event) : ∀ (st : State), TopOK st.topics → (∀ ev ∈ evs, RetOK ev.retained) →
    TopOK (evs.foldl merge st).topics := by
  induction evs with
  | nil => intro st h _; exact h
  | cons ev rest ih =>
    intro st h he
    simp only [List.foldl_cons]
    exact ih _ (merge_top st ev h (he ev (by simp))) (fun e hm => he e (by simp [hm]))

structure KN (n : Node) : Prop where
  top : TopOK n.dist.topics
  pend : ∀ e ∈ n.pending, RetOK e.2.retained
  stored : StoredOK n.stored

def KInv (w : World) : Prop := ∀ i, KN (w.node i)

theorem kinv_frame {w w' : World} (h : KInv w) (hn : w'.nodes = w.nodes) : KInv w' :=
  fun i => by rw [node_congr hn]; exact h i

theorem kinv_emit {w : World} (h : KInv w) (c : String) (p : Pkt) : KInv (w.emit c p) := kinv_frame h rfl

theorem kinv_tick {w : World} (h : KInv w) : KInv w.tick.1 := kinv_frame h rfl

theorem kinv_setNode {w : World} (h : KInv w) (i : Nat) (n' : Node) (hn : KN n') : KInv (w.setNode i n') := by
  intro j
  rw [node_setNode]
  split
  · exact hn
  · exact h j

theorem kinv_setNode_st {w : World} (h : KInv w) (i : Nat) (n' : Node)
    (hd : n'.dist = (w.node i).dist) (hq : n'.pending = (w.node i).pending)
    (hs : StoredOK (w.node i).stored → StoredOK n'.stored) : KInv (w.setNode i n') := by
  refine kinv_setNode h i n' ?_
  have hn := h i
  exact ⟨by rw [hd]; exact hn.top, by rw [hq]; exact hn.pend, hs hn.stored⟩

theorem kinv_setNode_same {w : World} (h : KInv w) (i : Nat) (n' : Node)
    (hd : n'.dist = (w.node i).dist := by rfl) (hq : n'.pending = (w.node i).pending := by rfl)
    (hs : n'.stored = (w.node i).stored := by rfl) : KInv (w.setNode i n') :=
  kinv_setNode_st h i n' hd hq (fun h => by rw [hs]; exact h)

theorem kinv_setDist {w : World} (h : KInv w) (i : Nat) (d : State)
    (hd : TopOK (w.node i).dist.topics → TopOK d.topics) :
    KInv (w.setNode i { w.node i with dist := d }) := by
  refine kinv_setNode h i _ ?_
  have hn := h i
  exact ⟨hd hn.top, hn.pend, hn.stored⟩

theorem kinv_setPending {w : World} (h : KInv w) (i : Nat) (p : List (Nat × Event))
    (hp : ∀ e ∈ p, e ∈ (w.node i).pending) : KInv (w.setNode i { w.node i with pending := p }) := by
  refine kinv_setNode h i _ ?_
  have hn := h i
  exact ⟨hn.top, fun e he => hn.pend e (hp e he), hn.stored⟩

theorem kinv_broadcast {w : World} (h : KInv w) (i : Nat) (ev : Event) (he : RetOK ev.retained) :
    KInv (w.broadcast i ev) := by
  unfold World.broadcast
  refine kinv_setNode h i _ ?_
  have hn := h i
  refine ⟨hn.top, ?_, hn.stored⟩
  intro e hme
  simp only [List.mem_append, List.mem_map] at hme
  rcases hme with hme | ⟨j, _, rfl⟩
  · exact hn.pend e hme
  · exact he

theorem kinv_distWrite {w : World} (h : KInv w) (i : Nat) (d : State) (ev : Event)
    (hd : TopOK (w.node i).dist.topics → TopOK d.topics) (he : RetOK ev.retained) :
    KInv ((w.tick.1.setNode i { w.tick.1.node i with dist := d }).broadcast i ev) :=
  kinv_broadcast (kinv_setDist (kinv_tick h) i d hd) i ev he

/-! The next two are stated for a variable `w`: with a long expression for the world, the `rfl`s of
    `kinv_setNode_same` make the unifier evaluate that expression. -/

theorem kinv_setReg {w : World} (h : KInv w) (i : Nat) (r : List Sess) :
    KInv (w.setNode i { w.node i with reg := r }) := kinv_setNode_same h i _

theorem kinv_setTimers {w : World} (h : KInv w) (i : Nat) (t : List (Int × Nat)) :
    KInv (w.setNode i { w.node i with timers := t }) := kinv_setNode_same h i _

theorem kinv_setSess {w : World} (h : KInv w) (i : Nat) (s' : Sess) :
    KInv (w.setNode i ((w.node i).setSess s')) := kinv_setNode_same h i _

theorem kinv_extendDeadline {w : World} (h : KInv w) (i : Nat) (sid : String) :
    KInv (w.extendDeadline i sid) :=
  extendDeadline_of (P := KInv) h (fun _ _ => kinv_setSess h i _)

theorem topOK_of_eq {m m' : List (String × Retained)} (e : m' = m) : TopOK m → TopOK m' := fun h => e ▸ h

theorem kinv_subCreate {w : World} (h : KInv w) (i : Nat) (sid pat : String) (qos : Int) :
    KInv (w.subCreate i sid pat qos) :=
  kinv_distWrite h i _ _ (topOK_of_eq rfl) retOK_nil

theorem kinv_subDelete {w : World} (h : KInv w) (i : Nat) (sid pat : String) :
    KInv (w.subDelete i sid pat) :=
  kinv_distWrite h i _ _ (topOK_of_eq rfl) retOK_nil

theorem sessDelete_topics (st : State) (now : Int) (id : String) : (Wasp.Dist.sessDelete st now id).1.topics = st.topics := by
  unfold Wasp.Dist.sessDelete
  split
  · rfl
  · split <;> rfl

theorem sessDelete_ev_ret (st : State) (now : Int) (id : String) (e : Event)
    (h : (Wasp.Dist.sessDelete st now id).2 = some e) : e.retained = [] := by
  unfold Wasp.Dist.sessDelete at h
  split at h
  · cases h
  · split at h
    · cases h
    · cases h; rfl

theorem sessCreate_topics (st : State) (now : Int) (id client : String) (ca : Int) (lwt : Option Will) (mount : String) :
    (sessCreate st now id client ca lwt mount).1.topics = st.topics := by
  unfold sessCreate
  split
  · split <;> rfl
  · rfl

theorem sessCreate_ev_ret (st : State) (now : Int) (id client : String) (ca : Int) (lwt : Option Will) (mount : String)
    (e : Event) (h : (sessCreate st now id client ca lwt mount).2.1 = some e) : e.retained = [] := by
  unfold sessCreate at h
  split at h
  · split at h
    · cases h
    · cases h; rfl
  · cases h; rfl

theorem kinv_sessDelete {w : World} (h : KInv w) (i : Nat) (sid : String) : KInv (w.sessDelete i sid) :=
  sessDelete_rel' (R := Keeps KInv) Keeps.refl Keeps.trans
    (fun _ i sid => optCast_rel (R := Keeps KInv) Keeps.refl Keeps.trans
      (fun h => kinv_setDist (kinv_tick h) i _ (topOK_of_eq (sessDelete_topics _ _ _)))
      (fun e he h2 => kinv_broadcast h2 i e (by rw [sessDelete_ev_ret _ _ _ e he]; exact retOK_nil)))
    w i sid h

theorem kinv_poolPut {w : World} (h : KInv w) (i : Nat) (mid : Int) : KInv (w.poolPut i mid) := by
  unfold World.poolPut
  exact kinv_setNode_same h i _ rfl rfl rfl

theorem storedOK_append {l : List (Ack.Key × Stored)} (h : StoredOK l) (x : Ack.Key × Stored)
    (hx : ∀ a c pub m, x.2 = Stored.inbound a c pub m → '/' ∈ pub.topic.toList) : StoredOK (l ++ [x]) := by
  intro e he
  rcases List.mem_append.mp he with he | he
  · exact h e he
  · rw [List.mem_singleton.mp he]; exact hx

theorem storedOK_erase {l : List (Ack.Key × Stored)} (h : StoredOK l) (k : Ack.Key) : StoredOK (storedErase k l) :=
  fun e he => h e (List.mem_filter.mp he).1

theorem kinv_armAndSend {w : World} (h : KInv w) (i : Nat) (st : Stored) : KInv (w.armAndSend i st) := by
  refine armAndSend_of (P := KInv) (h0 := h) (hd := kinv_extendDeadline h i)
    (hw := fun sid _ _ _ _ _ _ _ => kinv_emit (kinv_extendDeadline h i sid) _ _) (ha := ?_)
  intro sid _ _ _ _ _ ha _ _
  refine kinv_emit (kinv_setNode_st (kinv_extendDeadline h i sid) i _ ?_ ?_ fun hs => storedOK_append hs _ ?_) _ _
  · rfl
  · rfl
  intro a c pub m e
  rw [show st = Stored.inbound a c pub m from e] at ha
  cases ha

theorem kinv_sendArmed {w : World} (h : KInv w) (i : Nat) (st : Stored) (sid : String) (mid : Int) :
    KInv (w.sendArmed i st sid mid) :=
  sendArmed_of (kinv_armAndSend h i st) (fun _ => kinv_poolPut (kinv_armAndSend h i st) i mid)

theorem kinv_send (i : Nat) (p : Pub) (rcpt : List (String × Int)) : ∀ w : World, KInv w → KInv (w.send i rcpt p) :=
  send_of (P := KInv) (fun _ _ _ _ h => kinv_emit (kinv_extendDeadline h i _) _ _)
    (fun _ _ _ _ _ _ h => kinv_sendArmed (kinv_setNode_same h i _) i _ _ _) rcpt

theorem kinv_onResolved {w : World} (h : KInv w) (i : Nat) (ev : Ack.Resolved) (st : Stored) :
    KInv (w.onResolved i ev st) :=
  onResolved_of (P := KInv) (h0 := h) (arm := fun st' _ _ _ _ _ _ _ _ _ _ => kinv_armAndSend h i st')
    (put := fun _ _ _ mid _ _ => kinv_poolPut h i mid)

theorem kinv_deliverLocal {w : World} (h : KInv w) (j : Nat) (p : Pub) : KInv (w.deliverLocal j p) := by
  unfold World.deliverLocal
  exact kinv_send _ _ _ _ h

theorem kinv_appendLog {w : World} (h : KInv w) (j : Nat) (p : Pub) :
    KInv (w.setNode j ((w.node j).appendLog p).1) := by
  exact kinv_setNode_same h j _ (appendLog_dist _ _) (by rw [appendLog_fst]) (appendLog_stored _ _)

theorem kinv_distribute {w : World} (h : KInv w) (i : Nat) (p : Pub) : KInv (w.distribute i p).1 :=
  distribute_of (P := KInv) (fun _ _ _ h => kinv_appendLog h _ _) (fun _ _ _ h => kinv_deliverLocal h _ _) h i p

theorem kinv_retainStep {w : World} (h : KInv w) (i : Nat) (p : Pub) (hp : '/' ∈ p.topic.toList) :
    KInv (retainStep w i p) := by
  unfold retainStep
  split
  · have key : ∀ (st : State) (now : Int), (TopOK st.topics →
        TopOK (if p.payload = "" then topicDelete st now p.topic else topicSet st now p.topic p.payload p.qos true p.dup).1.topics) ∧
        RetOK (if p.payload = "" then topicDelete st now p.topic else topicSet st now p.topic p.payload p.qos true p.dup).2.retained := by
      intro st now
      split
      · refine ⟨fun ht => ht.assign _ _ rfl hp, fun r hr => ?_⟩
        simp only [topicDelete, List.mem_singleton] at hr
        subst hr; exact hp
      · refine ⟨fun ht => ht.assign _ _ rfl hp, fun r hr => ?_⟩
        simp only [topicSet, List.mem_singleton] at hr
        subst hr; exact hp
    exact kinv_distWrite h i _ _ (key _ _).1 (key _ _).2
  · exact h

theorem kinv_publishJob {w : World} (h : KInv w) (i : Nat) (p : Pub) (onOk : World → World)
    (hp : '/' ∈ p.topic.toList) (hok : ∀ w, KInv w → KInv (onOk w)) : KInv (w.publishJob i p onOk) := by
  rw [publishJob_eq]
  have h1 := kinv_distribute (kinv_retainStep h i p hp) i { p with retain := false }
  split
  · exact hok _ h1
  · exact h1

theorem kinv_eraseStored {w : World} (h : KInv w) (i : Nat) (k : Ack.Key) :
    KInv (w.setNode i { w.node i with stored := storedErase k (w.node i).stored }) :=
  kinv_setNode_st h i _ rfl rfl (fun hs => storedOK_erase hs _)

theorem kinv_ackStep {w : World} (h : KInv w) (i : Nat) (ev : Ack.Resolved) : KInv (ackStep i w ev) := by
  unfold ackStep
  split
  · exact h
  · rename_i st hst
    cases st with
    | inbound a conn pub imid =>
      exact kinv_publishJob (kinv_eraseStored h i _) _ _ _ ((h i).stored _ (storedFind_mem hst) _ _ _ _ rfl)
        (fun w hw => kinv_emit hw _ _)
    | out1 => exact kinv_onResolved (kinv_eraseStored h i _) _ _ _
    | out2 => exact kinv_onResolved (kinv_eraseStored h i _) _ _ _
    | rel => exact kinv_onResolved (kinv_eraseStored h i _) _ _ _

theorem kinv_ackFrom {w : World} (h : KInv w) (i : Nat) (pfx : String) (kind : Ack.PType) (mid : Int) :
    KInv (w.ackFrom i pfx kind mid) := by
  rw [ackFrom_eq]
  exact foldl_inv KInv _ _ _ (kinv_setNode_same h i _) (fun b ev _ hb => kinv_ackStep hb i ev)

theorem kinv_resolveStep {w : World} (h : KInv w) (i : Nat) (ev : Ack.Resolved) : KInv (resolveStep i w ev) := by
  unfold resolveStep
  split
  · exact h
  · exact kinv_onResolved (kinv_eraseStored h i _) _ _ _

theorem kinv_sweep {w : World} (h : KInv w) (i : Nat) : KInv (w.sweep i) := by
  rw [sweep_eq]
  have h0 : KInv ({ w with epoch := w.epoch + 1 } : World) := kinv_frame h rfl
  exact foldl_inv KInv _ _ _ (kinv_setNode_same h0 i _) (fun b ev _ hb => kinv_resolveStep hb i ev)

theorem prefix_slash (m t : String) : '/' ∈ (prefixMountPoint m t).toList := by
  rw [AgentA.prefix_toList]; simp

theorem kinv_subStep {w : World} (h : KInv w) (i : Nat) (sid : String) (tq : String × Nat) :
    KInv (subStep w i sid tq) := by
  have h1 := kinv_subCreate h i sid tq.1 tq.2
  unfold subStep
  simp only
  split
  · split
    · exact h1
    · exact kinv_setSess h1 i _
  · exact h1

theorem kinv_unsubStep {w : World} (h : KInv w) (i : Nat) (sid pt : String) : KInv (unsubStep w i sid pt) := by
  have h1 := kinv_subDelete h i sid pt
  unfold unsubStep
  simp only
  split
  · exact kinv_setSess h1 i _
  · exact h1

theorem kinv_replayStep {w : World} (h : KInv w) (i : Nat) (sid : String) (tq : String × Nat) :
    KInv (replayStep w i sid tq) :=
  foldl_inv KInv _ _ _ h (fun b _ _ hb => kinv_send i _ _ b hb)

theorem kinv_process {w : World} (h : KInv w) (i : Nat) (sid : String) (pkt : CPkt) :
    KInv (w.process i sid pkt).1 := by
  refine process_of h (emit := fun _ _ _ _ h => kinv_emit h _ _)
    (pub := fun _ _ _ _ _ _ onOk _ hok => kinv_publishJob h i _ onOk (prefix_slash _ _) hok) (inb := ?_)
    (sub := fun _ tq h => kinv_subStep h i sid tq) (replay := fun _ tq h => kinv_replayStep h i sid tq)
    (unsub := fun _ pt h => kinv_unsubStep h i sid pt) (ack := fun pfx kind mid => kinv_ackFrom h i pfx kind mid) pkt
  intro s topic payload qos retain dup mid _ _
  refine kinv_setNode_st h i _ ?_ ?_ fun hst => storedOK_append hst _ ?_
  · rfl
  · rfl
  intro a c pub m e
  cases e
  exact prefix_slash _ _

/-! ### session end, connections, gossip, node failure, time: the `_rel` lemmas at `Keeps KInv` -/

theorem k_nodes {w w' : World} (hn : w'.nodes = w.nodes) : Keeps KInv w w' := fun h => kinv_frame h hn

theorem k_shutdown (w : World) (i : Nat) (sid : String) : Keeps KInv w (w.shutdownSession i sid) :=
  shutdown_rel_of (R := Keeps KInv) Keeps.refl Keeps.trans
    (unreg := fun _ i _ h => kinv_frame (kinv_setReg h i _) rfl) (subDelete := fun _ i sid t h => kinv_subDelete h i sid t)
    (sessDelete := fun _ i sid h => kinv_sessDelete h i sid)
    (will := fun _ i _ _ _ _ _ h => kinv_publishJob h i _ id (prefix_slash _ _) (fun _ h => h)) w i sid

theorem k_clientPacket (w : World) (c : String) (pkt : CPkt) : Keeps KInv w (w.clientPacket c pkt) :=
  clientPacket_rel_of (R := Keeps KInv) Keeps.refl Keeps.trans c
    (process := fun _ i pkt h => kinv_process h i _ pkt) (extendDeadline := fun _ i h => kinv_extendDeadline h i _)
    (disc := fun _ i _ _ h => kinv_setSess h i _) (shutdown := fun w i => k_shutdown w i _) w pkt

theorem k_connMid (w : World) (c : String) (i : Nat) (client mount : String) (will : Option Will) :
    Keeps KInv w (connMid w c i client mount will) :=
  connMid_rel' (R := Keeps KInv) Keeps.refl Keeps.trans (conns := fun _ _ => k_nodes rfl)
    (sessDelete := fun _ i sid h => kinv_sessDelete h i sid)
    (create := fun _ c i client will mount => optCast_rel (R := Keeps KInv) Keeps.refl Keeps.trans
      (fun h => kinv_setDist (kinv_tick h) i _ (topOK_of_eq (sessCreate_topics _ _ _ _ _ _ _)))
      (fun e he h2 => kinv_broadcast h2 i e (by rw [sessCreate_ev_ret _ _ _ _ _ _ _ e he]; exact retOK_nil)))
    w c i client mount will

theorem kinv_connect {w : World} (h : KInv w) (c : String) (i : Nat) (client mount : String) (authOk : Bool)
    (keepalive : Nat) (will : Option Will) : KInv (w.connect c i client mount authOk keepalive will) := by
  cases authOk with
  | false =>
    rw [connect_refused]
    exact kinv_frame h rfl
  | true =>
    rw [connect_eq]
    split
    · exact kinv_emit (kinv_tick (connPre_rel (R := Keeps KInv) Keeps.refl Keeps.trans (fun _ _ => k_nodes rfl)
        (fun _ i sid h => kinv_sessDelete h i sid) w c i client mount h)) _ _
    · exact kinv_emit (kinv_setReg (k_connMid w c i client mount will h) i _) _ _

theorem k_drop (w : World) (c : String) : Keeps KInv w (w.drop c) :=
  drop_rel (R := Keeps KInv) Keeps.refl Keeps.trans c (fun _ _ => k_nodes rfl) (fun _ h => kinv_emit h _ _) (fun w i => k_shutdown w i _) w

theorem kinv_deliverGossip {w : World} (h : KInv w) (src dst : Nat) : KInv (w.deliverGossip src dst) :=
  deliverGossip_rel' (R := Keeps KInv) Keeps.refl Keeps.trans
    (fun _ src _ h => kinv_setPending h src _ (fun e he => (List.mem_filter.mp he).1))
    (fun _ src dst h =>
      kinv_setDist (kinv_setPending h src _ (fun e he => (List.mem_filter.mp he).1)) dst _ (fun ht => foldl_merge_top _ _ ht
        (fun ev hev => by
          obtain ⟨e, he, rfl⟩ := List.mem_map.mp hev
          exact (h src).pend e (List.mem_filter.mp he).1)))
    w src dst h

theorem k_gossipAll (w : World) : Keeps KInv w w.gossipAll :=
  gossipAll_rel (R := Keeps KInv) Keeps.refl Keeps.trans (fun _ src dst h => kinv_deliverGossip h src dst) w

theorem k_notifyLeave (w : World) (i : Nat) (peer : Nat) : Keeps KInv w (w.notifyLeave i peer) :=
  notifyLeave_rel_of (R := Keeps KInv) Keeps.refl Keeps.trans
    (leavePrefix := leavePrefix_rel' (R := Keeps KInv) Keeps.refl Keeps.trans
      (fun _ i _ h => kinv_distWrite h i _ _ (topOK_of_eq rfl) retOK_nil))
    (appendLog := fun _ j p h => kinv_appendLog h j p) (deliverLocal := fun _ j p h => kinv_deliverLocal h j p)
    (timers := fun _ i t h => kinv_setTimers h i t) w i peer

theorem k_nodeFail (w : World) (f : Nat) : Keeps KInv w (w.nodeFail f) :=
  nodeFail_rel (R := Keeps KInv) Keeps.refl Keeps.trans
    (fail := fun _ f h => kinv_setNode h f _ ⟨(h f).top, (fun _ he => nomatch he), (h f).stored⟩)
    (conns := fun _ _ => k_nodes rfl) (closed := fun _ _ h => kinv_emit h _ _) (notifyLeave := k_notifyLeave) w f

theorem k_idle (w : World) (ms : Int) : Keeps KInv w (w.idle ms) :=
  idle_rel' (R := Keeps KInv) Keeps.refl Keeps.trans (now := fun _ _ => k_nodes rfl)
    (timers := fun _ i t h => kinv_setTimers h i t)
    (peerWrite := fun _ i _ h => kinv_distWrite h i _ _ (topOK_of_eq rfl) retOK_nil) (shutdown := k_shutdown) w ms

/-- `KInv` needs nothing of the connection being assigned or taken off the list -/
theorem kinv_wire : WireInv KInv (fun _ _ => True) where
  frame h hn _ _ := kinv_frame h hn
  shutdown h i sid := k_shutdown _ i sid h
  clientPacket h c p := k_clientPacket _ c p h
  connect h c i client mount authOk ka will _ := kinv_connect h c i client mount authOk ka will
  drop h c := ⟨k_drop _ c h, trivial⟩
  idle h ms := k_idle _ ms h
  shift h ms j := by rw [AgentT5.shift_node]; exact ⟨(h j).top, (h j).pend, (h j).stored⟩
  unlisted _ _ := trivial
  noSess _ _ _ := trivial
  congr _ _ := trivial
  unlist h _ hn _ _ := kinv_frame h hn
  assign h _ hn _ _ := kinv_frame h hn

theorem kinv_init (n : Nat) : KInv (World.init n) := by
  intro i
  by_cases hi : i < n
  · have hnode : (World.init n).node i = { peer := i + 1, dist := { peer := i + 1 }, pool := initPool } := by
      unfold World.node World.init
      simp [List.getD_eq_getElem?_getD, hi]
    rw [hnode]
    exact ⟨topOK_nil, (fun e he => by cases he), (fun e he => by cases he)⟩
  · rw [node_oob _ i (by simp [World.init]; omega)]
    exact ⟨topOK_nil, (fun e he => by cases he), (fun e he => by cases he)⟩

theorem kinv_step {w : World} (h : KInv w) (op : BOp) : KInv (applyOp w op) := by
  cases op with
  | connect c node client mount authOk ka will => exact kinv_wire.op_connect h c node client mount authOk ka will
  | packet c pkt => exact kinv_wire.op_packet h c pkt
  | drop c => exact (kinv_wire.closeFromClient h c).1
  | openConn c node => exact kinv_wire.op_openConn h c node
  | raw c b => exact kinv_wire.rawBytes h c b
  | gossipAll => exact k_gossipAll w h
  | gossip f t => exact kinv_deliverGossip h f t
  | gossipOne f t k =>
    simp only [applyOp]
    split
    · exact h
    · rename_i e he
      have hmem : e ∈ (w.node f).pending := (List.mem_filter.mp (List.mem_of_getElem? he)).1
      have h1 : KInv (w.setNode f { w.node f with pending := dropKth t (w.node f).pending k }) :=
        kinv_setPending h f _ (AgentT5.dropKth_mem t _ k)
      split
      · exact h1
      · exact kinv_setDist h1 t _ (fun ht => merge_top _ _ ht ((h f).pend e hmem))
  | loseGossip f t =>
    simp only [applyOp]
    exact kinv_setPending h f _ (fun e he => (List.mem_filter.mp he).1)
  | sync f t =>
    simp only [applyOp]
    refine kinv_setDist h t _ (fun ht => merge_top _ _ ht ?_)
    intro r hr
    simp only [snapshot, List.mem_map] at hr
    obtain ⟨kr, hkr, rfl⟩ := hr
    rw [(h f).top.own kr hkr]
    exact (h f).top.slash kr hkr
  | unreachable n b => exact kinv_setNode_same h n _ rfl rfl rfl
  | logFailAll n b => exact kinv_setNode_same h n _ rfl rfl rfl
  | logFailAt n k => exact kinv_setNode_same h n _ rfl rfl rfl
  | logFailNone n => exact kinv_setNode_same h n _ rfl rfl rfl
  | nodeFail n => exact k_nodeFail w n h
  | sweep n => exact kinv_sweep h n
  | idle ms => exact kinv_wire.wireIdle h ms
  | elapse ms => exact kinv_wire.elapse h ms
  | setPool n lo hi =>
    simp only [applyOp]
    split
    · exact kinv_setNode_same h n _
    · exact h
  | rpcPublish n topic payload => exact kinv_distribute h n _

/-- on every reachable world, every node's retained store holds one entry per topic, each message under its own
    topic, and every topic contains a '/' -/
theorem topOK_reachable (w : World) (hr : Reachable w) (i : Nat) : TopOK (w.node i).dist.topics :=
  (Reachable.ind kinv_init (fun _ op h => kinv_step h op) hr i).top

end reachableInvariant

/-- the retained store of node i after a retained publish of `payload` on the (mount-prefixed) topic `K` -/
def storeAfter (w : World) (i : Nat) (K payload : String) (dup : Bool) : List (String × Retained) :=
  (if payload = "" then topicDelete (w.node i).dist w.clock K else topicSet (w.node i).dist w.clock K payload 0 true dup).1.topics

theorem storeAfter_set (w : World) (i : Nat) (K payload : String) (dup : Bool) (hne : payload ≠ "") :
    storeAfter w i K payload dup =
      topicsAssign K { topic := K, payload, qos := 0, retain := true, dup, added := w.clock, deleted := 0 } (w.node i).dist.topics := by
  simp only [storeAfter, hne, if_false, topicSet]

theorem storeAfter_clear (w : World) (i : Nat) (K : String) (dup : Bool) :
    storeAfter w i K "" dup =
      topicsAssign K { topic := K, payload := "", qos := 0, retain := false, dup := false, added := 0, deleted := w.clock }
        (w.node i).dist.topics := by
  simp only [storeAfter, if_true, topicDelete]

/-- a replayed PUBLISH carrying the name `topic` comes from the store's entry for the mount-prefixed `topic` -/
theorem replay_entry (T : List (String × Retained)) (hT : TopOK T) (m : String) (hwf : wfMount m) (f topic : String)
    (c : String) (pk : Pkt) (pl : String) (q : Nat) (rt dp : Bool) (mi : Int)
    (h : (c, Pkt.publish topic pl q rt dp mi) ∈
      (c, pk) :: ((topicsGetAll T (prefixMountPoint m f)).filter (fun r => isAdded r.stamp)).map (fun r =>
          (c, Pkt.publish (trimMountPoint m r.topic) r.payload 0 r.retain r.dup 0)))
    (hpk : ∀ a b c d e f, pk ≠ Pkt.publish a b c d e f) :
    ∃ r, (prefixMountPoint m topic, r) ∈ T ∧ isAdded r.stamp = true ∧ r.payload = pl := by
  rcases List.mem_cons.mp h with h | h
  · simp only [Prod.mk.injEq, true_and] at h
    exact absurd h.symm (hpk _ _ _ _ _ _)
  · simp only [List.mem_map, List.mem_filter, topicsGetAll, Prod.mk.injEq, true_and, Pkt.publish.injEq] at h
    obtain ⟨r, ⟨⟨kr, ⟨hkr, hmatch⟩, rfl⟩, hadd⟩, htrim, hpl, _⟩ := h
    have hown := hT.own kr hkr
    have hkey := key_of_match m kr.1 f hwf (hT.slash kr hkr) hmatch
    rw [hown] at htrim
    rw [htrim] at hkey
    refine ⟨kr.2, ?_, hadd, hpl⟩
    rw [← hkey]
    exact hkr

end Wasp.Broker.AgentT10
