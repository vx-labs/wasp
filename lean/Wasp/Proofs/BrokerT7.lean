import Wasp.Model.BrokerOps
import Wasp.Proofs.BrokerT5
/-! `PInv N`, the peer part of `GlobalInv2` (Wasp/Properties/Reachable2.lean): node k of N nodes has peer k + 1, also in
its replicated state, and every subscription stored or pending names a peer in 1..N. `pinv_step`: every operation of the
harness keeps it. -/

namespace Wasp.Broker
open Wasp.Dist

/-- `GlobalInv` plus the facts about peers. The first four fields are the ones the corollaries use; `pendPeers`
    (gossip not yet delivered only carries subscriptions naming a peer of the cluster) makes it inductive, as
    `GlobalInv.pendClock` does for the stamps. -/
structure GlobalInv2 (w : World) : Prop where
  base : GlobalInv w
  peers : ∀ k, k < w.nodes.length → (w.node k).peer = k + 1
  distPeer : ∀ k, k < w.nodes.length → (w.node k).dist.peer = (w.node k).peer
  subPeers : ∀ k, ∀ kl ∈ (w.node k).dist.subs, ∀ u ∈ kl.2, 1 ≤ u.peer ∧ u.peer ≤ w.nodes.length
  pendPeers : ∀ k, ∀ e ∈ (w.node k).pending, ∀ u ∈ e.2.subs, 1 ≤ u.peer ∧ u.peer ≤ w.nodes.length

end Wasp.Broker

namespace Wasp.Broker.AgentT7
open Wasp.Broker Wasp.Dist Wasp.Topic Wasp.Wire Wasp.Broker.AgentD

variable {N : Nat}

/-! ### subscription stores -/

/-- every subscription of the list names a peer in 1..N -/
def Bnd (N : Nat) (l : List Sub) : Prop := ∀ u ∈ l, 1 ≤ u.peer ∧ u.peer ≤ N

def SubsBnd (N : Nat) (m : List (String × List Sub)) : Prop := ∀ kl ∈ m, Bnd N kl.2

theorem bnd_nil (N : Nat) : Bnd N [] := fun _ h => by cases h

theorem subsSet_bnd (s : Sub) (m : List (String × List Sub)) (hm : SubsBnd N m)
    (hs : 1 ≤ s.peer ∧ s.peer ≤ N) : SubsBnd N (subsSet s m) :=
  subsSet_forall (fun _ x => 1 ≤ x.peer ∧ x.peer ≤ N) s m hm hs

theorem foldl_subsSet_bnd (vs : List Sub) (m : List (String × List Sub)) (hm : SubsBnd N m)
    (hv : Bnd N vs) : SubsBnd N (vs.foldl (fun acc s => subsSet s acc) m) :=
  foldl_subsSet_forall (fun _ x => 1 ≤ x.peer ∧ x.peer ≤ N) vs m hm hv

theorem mergeSubs_bnd (vs : List Sub) (m : List (String × List Sub)) (hm : SubsBnd N m)
    (hv : Bnd N vs) : SubsBnd N (mergeSubs vs m) :=
  AgentT5.mergeSubs_forall (fun _ x => 1 ≤ x.peer ∧ x.peer ≤ N) vs m hm hv

/-- the store's own peer is a peer of the cluster -/
def PeerOK (N : Nat) (d : State) : Prop := 1 ≤ d.peer ∧ d.peer ≤ N

/-- a write to the replicated state: the peer stays, the subscriptions keep naming peers of the cluster -/
structure DStep (N : Nat) (d d' : State) : Prop where
  peer : d'.peer = d.peer
  subs : PeerOK N d → SubsBnd N d.subs → SubsBnd N d'.subs

/-- the broadcast a write queues -/
def EvOK (N : Nat) (d : State) (ev : Event) : Prop := PeerOK N d → SubsBnd N d.subs → Bnd N ev.subs

theorem DStep.refl (N : Nat) (d : State) : DStep N d d := ⟨rfl, fun _ h => h⟩

theorem DStep.of_eq {d d' : State} (hp : d'.peer = d.peer) (hs : d'.subs = d.subs) : DStep N d d' :=
  ⟨hp, fun _ h => by rw [hs]; exact h⟩

theorem DStep.trans {a b c : State} (h1 : DStep N a b) (h2 : DStep N b c) : DStep N a c :=
  ⟨h2.peer.trans h1.peer, fun hp hs => h2.subs (by unfold PeerOK; rw [h1.peer]; exact hp) (h1.subs hp hs)⟩

theorem evOK_nil {d : State} {ev : Event} (h : ev.subs = []) : EvOK N d ev := by
  intro _ _; rw [h]; exact bnd_nil N

theorem merge_dstep (d : State) (ev : Event) (he : Bnd N ev.subs) : DStep N d (merge d ev) :=
  ⟨rfl, fun _ hs => mergeSubs_bnd ev.subs d.subs hs he⟩

theorem foldl_merge_dstep (evs : List Event) (d : State) (he : ∀ ev ∈ evs, Bnd N ev.subs) :
    DStep N d (evs.foldl merge d) := by
  induction evs generalizing d with
  | nil => exact DStep.refl N d
  | cons ev rest ih =>
    simp only [List.foldl_cons]
    exact (merge_dstep d ev (he ev (by simp))).trans (ih _ (fun e hm => he e (by simp [hm])))

theorem subCreate_dstep (st : State) (now : Int) (sid pat : String) (qos : Int) :
    DStep N st (Wasp.Dist.subCreate st now sid pat qos).1 ∧ EvOK N st (Wasp.Dist.subCreate st now sid pat qos).2 := by
  refine ⟨⟨rfl, fun hp hs => subsSet_bnd _ _ hs hp⟩, fun hp _ u hu => ?_⟩
  simp only [Wasp.Dist.subCreate, List.mem_singleton] at hu
  subst hu; exact hp

theorem subDelete_dstep (st : State) (now : Int) (sid pat : String) :
    DStep N st (Wasp.Dist.subDelete st now sid pat).1 ∧ EvOK N st (Wasp.Dist.subDelete st now sid pat).2 := by
  refine ⟨⟨rfl, fun hp hs => subsSet_bnd _ _ hs hp⟩, fun hp _ u hu => ?_⟩
  simp only [Wasp.Dist.subDelete, List.mem_singleton] at hu
  subst hu; exact hp

theorem subBulkDelete_dstep (st : State) (now : Int) (f : Sub → Bool) :
    DStep N st (subBulkDelete st now f).1 ∧ EvOK N st (subBulkDelete st now f).2 := by
  have ho : SubsBnd N st.subs → Bnd N ((subFilter st f).map (fun s => { s with deleted := now })) := by
    intro hm u hu
    simp only [List.mem_map, subFilter, List.mem_flatMap, List.mem_filter] at hu
    obtain ⟨x, ⟨kl, hkl, hx, _⟩, rfl⟩ := hu
    exact hm kl hkl x hx
  exact ⟨⟨rfl, fun _ hs => foldl_subsSet_bnd _ _ hs (ho hs)⟩, fun _ hs => ho hs⟩

theorem sessDelete_peer (st : State) (now : Int) (id : String) : (Wasp.Dist.sessDelete st now id).1.peer = st.peer := by
  unfold Wasp.Dist.sessDelete
  split
  · rfl
  · split <;> rfl

theorem sessCreate_peer (st : State) (now : Int) (id client : String) (ca : Int) (lwt : Option Will) (mount : String) :
    (sessCreate st now id client ca lwt mount).1.peer = st.peer := by
  unfold sessCreate
  split
  · split <;> rfl
  · rfl

theorem topic_peer (st : State) (now : Int) (p : Pub) :
    (if p.payload = "" then topicDelete st now p.topic else topicSet st now p.topic p.payload p.qos true p.dup).1.peer = st.peer := by
  split <;> rfl

/-! ### the invariant, relative to the number of nodes -/

/-- node i of a cluster of N nodes -/
structure PN (N i : Nat) (n : Node) : Prop where
  peer : n.peer = i + 1
  distPeer : n.dist.peer = i + 1
  subs : SubsBnd N n.dist.subs
  pend : ∀ e ∈ n.pending, Bnd N e.2.subs

structure PInv (N : Nat) (w : World) : Prop where
  len : w.nodes.length = N
  node : ∀ i, i < N → PN N i (w.node i)

theorem PN.peerOK {N i : Nat} {n : Node} (h : PN N i n) (hi : i < N) : PeerOK N n.dist := by
  unfold PeerOK; rw [h.distPeer]; omega

theorem pinv_frame {w w' : World} (h : PInv N w) (hn : w'.nodes = w.nodes) : PInv N w' :=
  ⟨by rw [hn]; exact h.len, fun i hi => by rw [node_congr hn]; exact h.node i hi⟩

theorem pinv_emit {w : World} (h : PInv N w) (c : String) (p : Pkt) : PInv N (w.emit c p) := pinv_frame h rfl

theorem pinv_tick {w : World} (h : PInv N w) : PInv N w.tick.1 := pinv_frame h rfl

theorem pinv_setNode {w : World} (h : PInv N w) (i : Nat) (n' : Node) (hn : i < N → PN N i n') :
    PInv N (w.setNode i n') := by
  refine ⟨by rw [setNode_length]; exact h.len, fun j hj => ?_⟩
  rw [node_setNode]
  split
  · rename_i hc
    rw [hc.1]
    exact hn (hc.1 ▸ hj)
  · exact h.node j hj

theorem pinv_setNode_same {w : World} (h : PInv N w) (i : Nat) (n' : Node)
    (hp : n'.peer = (w.node i).peer := by rfl) (hd : n'.dist = (w.node i).dist := by rfl)
    (hq : n'.pending = (w.node i).pending := by rfl) : PInv N (w.setNode i n') := by
  refine pinv_setNode h i n' (fun hi => ?_)
  have hn := h.node i hi
  exact ⟨by rw [hp]; exact hn.peer, by rw [hd]; exact hn.distPeer, by rw [hd]; exact hn.subs, by rw [hq]; exact hn.pend⟩

theorem pinv_setDist {w : World} (h : PInv N w) (i : Nat) (d : State) (hd : DStep N (w.node i).dist d) :
    PInv N (w.setNode i { w.node i with dist := d }) := by
  refine pinv_setNode h i _ (fun hi => ?_)
  have hn := h.node i hi
  exact ⟨hn.peer, hd.peer.trans hn.distPeer, hd.subs (hn.peerOK hi) hn.subs, hn.pend⟩

theorem pinv_setPending {w : World} (h : PInv N w) (i : Nat) (p : List (Nat × Event))
    (hp : ∀ e ∈ p, e ∈ (w.node i).pending) : PInv N (w.setNode i { w.node i with pending := p }) := by
  refine pinv_setNode h i _ (fun hi => ?_)
  have hn := h.node i hi
  exact ⟨hn.peer, hn.distPeer, hn.subs, fun e he => hn.pend e (hp e he)⟩

theorem pinv_broadcast {w : World} (h : PInv N w) (i : Nat) (ev : Event) (he : i < N → Bnd N ev.subs) :
    PInv N (w.broadcast i ev) := by
  unfold World.broadcast
  refine pinv_setNode h i _ (fun hi => ?_)
  have hn := h.node i hi
  refine ⟨hn.peer, hn.distPeer, hn.subs, ?_⟩
  intro e hme
  simp only [List.mem_append, List.mem_map] at hme
  rcases hme with hme | ⟨j, _, rfl⟩
  · exact hn.pend e hme
  · exact he hi

theorem pinv_distWrite {w : World} (h : PInv N w) (i : Nat) (d : State) (ev : Event)
    (hd : DStep N (w.node i).dist d) (he : EvOK N (w.node i).dist ev) :
    PInv N ((w.tick.1.setNode i { w.tick.1.node i with dist := d }).broadcast i ev) :=
  pinv_broadcast (pinv_setDist (pinv_tick h) i d hd) i ev
    (fun hi => he ((h.node i hi).peerOK hi) (h.node i hi).subs)

theorem pinv_setSess {w : World} (h : PInv N w) (i : Nat) (s' : Sess) :
    PInv N (w.setNode i ((w.node i).setSess s')) := pinv_setNode_same h i _

/-! ### writer, publish pipeline, packets -/

theorem pinv_extendDeadline {w : World} (h : PInv N w) (i : Nat) (sid : String) :
    PInv N (w.extendDeadline i sid) :=
  extendDeadline_of (P := PInv N) h (fun _ _ => pinv_setSess h i _)

theorem pinv_subCreate {w : World} (h : PInv N w) (i : Nat) (sid pat : String) (qos : Int) :
    PInv N (w.subCreate i sid pat qos) := by
  have hs := subCreate_dstep (N := N) (w.node i).dist w.clock sid pat qos
  exact pinv_distWrite h i _ _ hs.1 hs.2

theorem pinv_subDelete {w : World} (h : PInv N w) (i : Nat) (sid pat : String) :
    PInv N (w.subDelete i sid pat) := by
  have hs := subDelete_dstep (N := N) (w.node i).dist w.clock sid pat
  exact pinv_distWrite h i _ _ hs.1 hs.2

/-- the deletion and the creation of a session record -/
theorem pinv_recordWrite {w : World} (h : PInv N w) (i : Nat) (d : State) (ev : Option Event)
    (hp : d.peer = (w.node i).dist.peer) (hs : d.subs = (w.node i).dist.subs) (he : ∀ e, ev = some e → e.subs = []) :
    PInv N (optCast (w.tick.1.setNode i { w.tick.1.node i with dist := d }) i ev) :=
  optCast_rel (R := Keeps (PInv N)) Keeps.refl Keeps.trans (fun h => pinv_setDist (pinv_tick h) i d (DStep.of_eq hp hs))
    (fun e hev h2 => pinv_broadcast h2 i e (fun _ => by rw [he e hev]; exact bnd_nil _)) h

theorem pinv_sessDelete {w : World} (h : PInv N w) (i : Nat) (sid : String) : PInv N (w.sessDelete i sid) := by
  unfold World.sessDelete
  exact pinv_recordWrite h i _ _ (sessDelete_peer _ _ _) (sessDelete_subs _ _ _) (AgentT5.sessDelete_ev _ _ _)

theorem pinv_retainStep {w : World} (h : PInv N w) (i : Nat) (p : Pub) : PInv N (retainStep w i p) := by
  unfold retainStep
  split
  · have ht := AgentT5.topic_step (w.node i).dist w.clock p
    exact pinv_distWrite h i _ _ (DStep.of_eq (topic_peer _ _ _) ht.1) (evOK_nil ht.2)
  · exact h

theorem PInv.of_moves {who : Option String} {w w' : World} (h : Moves who w w') (hw : PInv N w) : PInv N w' :=
  Moves.rel (R := Keeps (PInv N)) Keeps.refl Keeps.trans
    (emit := fun _ c p _ h => pinv_emit h c p)
    (epoch := fun _ h => pinv_frame h rfl)
    (extendDeadline := fun _ i x h => pinv_extendDeadline h i x)
    (subCreate := fun sid _ _ i pat qos h => pinv_subCreate h i sid pat qos)
    (subDelete := fun sid _ _ i pat h => pinv_subDelete h i sid pat)
    (retain := fun _ i p h => pinv_retainStep h i p)
    (topics := fun _ _ _ i _ _ _ h => pinv_setSess h i _)
    (tables := fun _ i _ _ _ _ _ h => pinv_setNode_same h i _) h hw


/-! ### session end, connections -/

theorem pinv_conns (w : World) (l : List (String × Nat)) : Keeps (PInv N) w { w with conns := l } :=
  fun h => pinv_frame h rfl

theorem pinv_shutdown {w : World} (h : PInv N w) (i : Nat) (sid : String) :
    PInv N (w.shutdownSession i sid) :=
  shutdown_rel (R := Keeps (PInv N)) Keeps.refl Keeps.trans PInv.of_moves
    (fun w i s h => pinv_frame
      (pinv_setNode_same h i { w.node i with reg := (w.node i).reg.filter (fun x => x.id != s.id) }) rfl)
    (fun _ i sid h => pinv_sessDelete h i sid) w i sid h

theorem pinv_clientPacket {w : World} (h : PInv N w) (conn : String) (pkt : CPkt) :
    PInv N (w.clientPacket conn pkt) :=
  clientPacket_rel (R := Keeps (PInv N)) Keeps.refl Keeps.trans conn PInv.of_moves (fun _ i _ _ h => pinv_setSess h i _)
    (fun _ i h => pinv_shutdown h i _) w pkt h

theorem pinv_connPre {w : World} (h : PInv N w) (c : String) (i : Nat) (client mount : String) :
    PInv N (connPre w c i client mount) :=
  connPre_rel (R := Keeps (PInv N)) Keeps.refl Keeps.trans pinv_conns (fun _ i sid h => pinv_sessDelete h i sid)
    w c i client mount h

theorem pinv_connMid {w : World} (h : PInv N w) (c : String) (i : Nat) (client mount : String)
    (will : Option Will) : PInv N (connMid w c i client mount will) :=
  connMid_rel' (R := Keeps (PInv N)) Keeps.refl Keeps.trans pinv_conns (fun _ i sid h => pinv_sessDelete h i sid)
    (fun _ _ i _ _ _ h => pinv_recordWrite h i _ _ (sessCreate_peer _ _ _ _ _ _ _) (sessCreate_subs _ _ _ _ _ _ _)
      (AgentT5.sessCreate_ev _ _ _ _ _ _ _)) w c i client mount will h

theorem pinv_connect {w : World} (h : PInv N w) (c : String) (i : Nat) (client mount : String) (authOk : Bool)
    (keepalive : Nat) (will : Option Will) : PInv N (w.connect c i client mount authOk keepalive will) := by
  cases authOk with
  | false =>
    rw [connect_refused]
    exact pinv_frame h rfl
  | true =>
    rw [connect_eq]
    split
    · exact pinv_emit (pinv_tick (pinv_connPre h c i client mount)) _ _
    · simp only
      apply pinv_emit
      exact pinv_setNode_same (pinv_connMid h c i client mount will) i _

theorem pinv_drop {w : World} (h : PInv N w) (c : String) : PInv N (w.drop c) :=
  drop_rel (R := Keeps (PInv N)) Keeps.refl Keeps.trans c pinv_conns (fun _ h => pinv_emit h c _)
    (fun _ i h => pinv_shutdown h i _) w h

/-! ### gossip, node failure, time -/

theorem pinv_mergeInto {w : World} (h : PInv N w) (t : Nat) (evs : List Event)
    (he : ∀ ev ∈ evs, Bnd N ev.subs) :
    PInv N (w.setNode t { w.node t with dist := evs.foldl merge (w.node t).dist }) :=
  pinv_setDist h t _ (foldl_merge_dstep evs _ he)

/-- what is pending anywhere names peers of the cluster (also beyond the last node: nothing is pending there) -/
theorem pinv_pend {w : World} (h : PInv N w) (k : Nat) : ∀ e ∈ (w.node k).pending, Bnd N e.2.subs := by
  by_cases hk : k < N
  · exact (h.node k hk).pend
  · intro e he
    rw [node_oob w k (by rw [h.len]; omega)] at he
    cases he

theorem pinv_subs {w : World} (h : PInv N w) (k : Nat) : SubsBnd N (w.node k).dist.subs := by
  by_cases hk : k < N
  · exact (h.node k hk).subs
  · intro e he
    rw [node_oob w k (by rw [h.len]; omega)] at he
    cases he

theorem pinv_deliverGossip {w : World} (h : PInv N w) (src dst : Nat) : PInv N (w.deliverGossip src dst) := by
  unfold World.deliverGossip
  simp only []
  have h1 : PInv N (w.setNode src { w.node src with pending := (w.node src).pending.filter (fun e => e.1 != dst) }) :=
    pinv_setPending h src _ (fun e he => (List.mem_filter.mp he).1)
  split
  · exact h1
  · refine pinv_mergeInto h1 dst _ ?_
    intro ev hev
    obtain ⟨e, he, rfl⟩ := List.mem_map.mp hev
    exact pinv_pend h src e (List.mem_filter.mp he).1

theorem pinv_leavePrefix {w : World} (h : PInv N w) (i : Nat) (peer : Nat) :
    PInv N (AgentA.leavePrefix w i peer) := by
  unfold AgentA.leavePrefix
  have hs := subBulkDelete_dstep (N := N) (w.node i).dist w.clock (fun s => s.peer == peer)
  exact pinv_distWrite h i _ _ hs.1 hs.2


theorem pinv_notifyLeave {w : World} (h : PInv N w) (i : Nat) (peer : Nat) : PInv N (w.notifyLeave i peer) :=
  notifyLeave_rel (R := Keeps (PInv N)) Keeps.refl Keeps.trans PInv.of_moves (fun _ i peer h => pinv_leavePrefix h i peer)
    (fun _ i _ h => pinv_setNode_same h i _) w i peer h

theorem pinv_nodeFail {w : World} (h : PInv N w) (f : Nat) : PInv N (w.nodeFail f) :=
  nodeFail_rel (R := Keeps (PInv N)) Keeps.refl Keeps.trans
    (fail := fun _ f h =>
      pinv_setNode h f _ (fun hf => ⟨(h.node f hf).peer, (h.node f hf).distPeer, (h.node f hf).subs, nofun⟩))
    (conns := pinv_conns)
    (closed := fun _ c h => pinv_emit h c _)
    (notifyLeave := fun _ i peer h => pinv_notifyLeave h i peer) w f h

theorem pinv_idle {w : World} (h : PInv N w) (ms : Int) : PInv N (w.idle ms) :=
  idle_rel' (R := Keeps (PInv N)) Keeps.refl Keeps.trans
    (now := fun _ _ h => pinv_frame h rfl)
    (timers := fun _ i _ h => pinv_setNode_same h i _)
    (peerWrite := fun _ i _ h => pinv_distWrite h i _ _ (DStep.of_eq rfl rfl) (evOK_nil rfl))
    (shutdown := fun _ i sid h => pinv_shutdown h i sid) w ms h

/-! ### the byte-level path (Wasp/Model/Wire.lean) -/

/-- the peer invariant does not look at the connection list: every connection may be assigned or forgotten -/
theorem pinv_wire : WireInv (PInv N) (fun _ _ => True) where
  frame h hn _ _ := pinv_frame h hn
  shutdown := pinv_shutdown
  clientPacket := pinv_clientPacket
  connect h c i client mount authOk ka will _ := pinv_connect h c i client mount authOk ka will
  drop h c := ⟨pinv_drop h c, trivial⟩
  idle := pinv_idle
  shift h ms := ⟨by simp only [List.length_map]; exact h.len, fun j hj => by
    rw [AgentT5.shift_node]
    have hn := h.node j hj
    exact ⟨hn.peer, hn.distPeer, hn.subs, hn.pend⟩⟩
  unlisted _ _ := trivial
  noSess _ _ _ := trivial
  congr _ _ := trivial
  unlist h _ hn _ _ := pinv_frame h hn
  assign h _ hn _ _ := pinv_frame h hn

theorem pinv_init (n : Nat) : PInv n (World.init n) := by
  refine ⟨by simp [World.init], fun i hi => ?_⟩
  have hnode : (World.init n).node i = { peer := i + 1, dist := { peer := i + 1 }, pool := initPool } := by
    unfold World.node World.init
    simp [List.getD_eq_getElem?_getD, hi]
  rw [hnode]
  exact ⟨rfl, rfl, (fun kl hkl => by cases hkl), (fun e he => by cases he)⟩

theorem pinv_op_gossipOne {w : World} (h : PInv N w) (f t k : Nat) : PInv N (applyOp w (.gossipOne f t k)) := by
  simp only [applyOp]
  split
  · exact h
  · rename_i e he
    have hmem : e ∈ (w.node f).pending := (List.mem_filter.mp (List.mem_of_getElem? he)).1
    have h1 : PInv N (w.setNode f { w.node f with pending := dropKth t (w.node f).pending k }) :=
      pinv_setPending h f _ (AgentT5.dropKth_mem t _ k)
    split
    · exact h1
    · exact pinv_setDist h1 t _ (merge_dstep _ _ (pinv_pend h f e hmem))

theorem pinv_op_loseGossip {w : World} (h : PInv N w) (f t : Nat) : PInv N (applyOp w (.loseGossip f t)) := by
  simp only [applyOp]
  exact pinv_setPending h f _ (fun e he => (List.mem_filter.mp he).1)

theorem pinv_op_sync {w : World} (h : PInv N w) (f t : Nat) : PInv N (applyOp w (.sync f t)) := by
  simp only [applyOp]
  refine pinv_setDist h t _ (merge_dstep _ _ ?_)
  intro u hu
  simp only [snapshot, List.mem_flatMap] at hu
  obtain ⟨kl, hkl, hukl⟩ := hu
  exact pinv_subs h f kl hkl u hukl

theorem pinv_op_setPool {w : World} (h : PInv N w) (n : Nat) (lo hi : Int) :
    PInv N (applyOp w (.setPool n lo hi)) := by
  simp only [applyOp]
  split
  · exact pinv_setNode_same h n _
  · exact h

theorem pinv_step {w : World} (h : PInv N w) (op : BOp) : PInv N (applyOp w op) := by
  cases op with
  | connect c node client mount authOk ka will => exact pinv_wire.op_connect h c node client mount authOk ka will
  | packet c pkt => exact pinv_wire.op_packet h c pkt
  | drop c => exact (pinv_wire.closeFromClient h c).1
  | openConn c node => exact pinv_wire.op_openConn h c node
  | raw c b => exact pinv_wire.rawBytes h c b
  | gossipAll => exact gossipAll_rel (R := Keeps (PInv N)) Keeps.refl Keeps.trans (fun _ a b h => pinv_deliverGossip h a b) w h
  | gossip f t => exact pinv_deliverGossip h f t
  | gossipOne f t k => exact pinv_op_gossipOne h f t k
  | loseGossip f t => exact pinv_op_loseGossip h f t
  | sync f t => exact pinv_op_sync h f t
  | unreachable n b => exact pinv_setNode_same h n _
  | logFailAll n b => exact pinv_setNode_same h n _
  | logFailAt n k => exact pinv_setNode_same h n _
  | logFailNone n => exact pinv_setNode_same h n _
  | nodeFail n => exact pinv_nodeFail h n
  | sweep n => exact .of_moves (moves_sweep w n) h
  | idle ms => exact pinv_wire.wireIdle h ms
  | elapse ms => exact pinv_wire.elapse h ms
  | setPool n lo hi => exact pinv_op_setPool h n lo hi
  | rpcPublish n topic payload => exact .of_moves (moves_distribute w n _) h

/-! ### `GlobalInv2` as `GlobalInv` and the peer invariant -/

theorem globalInv2_iff (w : World) : GlobalInv2 w ↔ GlobalInv w ∧ PInv w.nodes.length w := by
  constructor
  · intro h
    refine ⟨h.base, rfl, fun i hi => ⟨h.peers i hi, (h.distPeer i hi).trans (h.peers i hi), h.subPeers i, h.pendPeers i⟩⟩
  · rintro ⟨hb, hp⟩
    exact ⟨hb, fun k hk => (hp.node k hk).peer, fun k hk => (hp.node k hk).distPeer.trans (hp.node k hk).peer.symm,
      fun k => pinv_subs hp k, fun k => pinv_pend hp k⟩

theorem pinv_len {w : World} (h : PInv N w) (op : BOp) : (applyOp w op).nodes.length = w.nodes.length :=
  (pinv_step h op).len.trans h.len.symm

end Wasp.Broker.AgentT7
