import Wasp.Model.BrokerOps
import Wasp.Proofs.BrokerT5
import Wasp.Proofs.BrokerRel
/-!
For Wasp/Properties/C05C12E2E.lean: on every reachable world the connection of every
registered session is not listed in `World.deaf`.

`World.deaf` only grows in the refusing branch of `World.connect`, for a connection name no session is registered
under (the `.connect` operation closes the old connection of that name first; the byte-level path only sets a
connection up while it has no session), and `applyOp` clears a re-used connection name from `deaf`. Every other
function of the model adds nothing to `deaf` and registers no session (`DStep`).
-/
namespace Wasp.Broker.AgentT14
open Wasp.Broker Wasp.Dist Wasp.Topic Wasp.Broker.AgentD Wasp.Broker.AgentT5

/-! ### the relation between a world and its successor -/

structure DStep (w w' : World) : Prop where
  reg : ∀ j, ∀ s' ∈ (w'.node j).reg, ∃ s ∈ (w.node j).reg, s.conn = s'.conn
  deaf : ∀ x ∈ w'.deaf, x ∈ w.deaf

theorem DStep.refl (w : World) : DStep w w := ⟨fun _ s' h => ⟨s', h, rfl⟩, fun _ h => h⟩

theorem DStep.trans {a b c : World} (h1 : DStep a b) (h2 : DStep b c) : DStep a c := by
  refine ⟨fun j s' hs' => ?_, fun x hx => h1.deaf x (h2.deaf x hx)⟩
  obtain ⟨s1, hs1, e1⟩ := h2.reg j s' hs'
  obtain ⟨s0, hs0, e0⟩ := h1.reg j s1 hs1
  exact ⟨s0, hs0, e0.trans e1⟩

theorem DStep.of_nodes {w w' : World} (h : w'.nodes = w.nodes)
    (hd : ∀ x ∈ w'.deaf, x ∈ w.deaf := by exact fun _ h => h) : DStep w w' :=
  ⟨fun j s' hs' => ⟨s', by rw [node_congr h] at hs'; exact hs', rfl⟩, hd⟩

theorem DStep.setNode (w : World) (i : Nat) (n' : Node)
    (h : ∀ s' ∈ n'.reg, ∃ s ∈ (w.node i).reg, s.conn = s'.conn) : DStep w (w.setNode i n') := by
  refine ⟨fun j s' hs' => ?_, fun _ h => h⟩
  rw [node_setNode] at hs'
  split at hs'
  · rename_i hji; rw [hji.1]; exact h s' hs'
  · exact ⟨s', hs', rfl⟩

theorem d_setNode_sub (w : World) (i : Nat) (n' : Node) (h : ∀ s' ∈ n'.reg, s' ∈ (w.node i).reg) :
    DStep w (w.setNode i n') :=
  DStep.setNode w i n' (fun s' hs' => ⟨s', h s' hs', rfl⟩)

/-- the registry of the node is untouched -/
theorem d_setNode_same (w : World) (i : Nat) (n' : Node) (hr : n'.reg = (w.node i).reg := by rfl) :
    DStep w (w.setNode i n') :=
  d_setNode_sub w i n' (fun _ hs' => hr ▸ hs')

theorem d_emit (w : World) (c : String) (p : Pkt) : DStep w (w.emit c p) := DStep.of_nodes rfl

theorem d_tick (w : World) : DStep w w.tick.1 := DStep.of_nodes rfl

/-! ### writes of the replicated state -/

theorem d_setDist (w : World) (i : Nat) (d : State) : DStep w (w.setNode i { w.node i with dist := d }) :=
  d_setNode_same w i _

theorem d_broadcast (w : World) (i : Nat) (ev : Event) : DStep w (w.broadcast i ev) := by
  unfold World.broadcast
  exact d_setNode_same w i _

theorem d_distWrite (w : World) (i : Nat) (d : State) (ev : Event) :
    DStep w ((w.tick.1.setNode i { w.tick.1.node i with dist := d }).broadcast i ev) :=
  distWrite_rel DStep.refl DStep.trans d_tick d_setDist d_broadcast w i d ev

/-- a registered session is replaced by one on the same connection -/
theorem d_setSess (w : World) (i : Nat) {sid : String} {s : Sess} (s' : Sess) (hs : (w.node i).sess sid = some s)
    (hc : s'.conn = s.conn := by rfl) : DStep w (w.setNode i ((w.node i).setSess s')) := by
  refine DStep.setNode w i _ ?_
  intro x' hx'
  rcases mem_setSess hx' with rfl | hx
  · exact ⟨s, (sess_some hs).1, hc.symm⟩
  · exact ⟨x', hx, rfl⟩

theorem d_extendDeadline (w : World) (i : Nat) (sid : String) : DStep w (w.extendDeadline i sid) :=
  extendDeadline_of (P := DStep w) (DStep.refl w) (fun _ hs => d_setSess w i _ hs)

theorem d_subCreate (w : World) (i : Nat) (sid pat : String) (qos : Int) : DStep w (w.subCreate i sid pat qos) :=
  d_distWrite w i _ _

theorem d_subDelete (w : World) (i : Nat) (sid pat : String) : DStep w (w.subDelete i sid pat) :=
  d_distWrite w i _ _

theorem d_sessDelete (w : World) (i : Nat) (sid : String) : DStep w (w.sessDelete i sid) :=
  sessDelete_rel DStep.refl DStep.trans d_tick d_setDist d_broadcast w i sid

theorem d_retainStep (w : World) (i : Nat) (p : Pub) : DStep w (retainStep w i p) := by
  unfold retainStep
  split
  · exact d_distWrite w i _ _
  · exact DStep.refl w

theorem DStep.of_moves {who : Option String} {w w' : World} (h : Moves who w w') : DStep w w' :=
  h.rel (refl := DStep.refl) (trans := DStep.trans) (emit := fun w c p _ => d_emit w c p)
    (epoch := fun _ => DStep.of_nodes rfl) (extendDeadline := d_extendDeadline)
    (subCreate := fun sid _ w i => d_subCreate w i sid) (subDelete := fun sid _ w i => d_subDelete w i sid)
    (retain := d_retainStep) (topics := fun _ _ w i _ _ hs => d_setSess w i _ hs)
    (tables := fun w i _ _ _ _ _ => d_setNode_same w i _)

theorem d_conns (w : World) (l : List (String × Nat)) : DStep w { w with conns := l } := DStep.of_nodes rfl

/-! ### session end, packets, CONNECT up to the registration -/

theorem d_shutdown (w : World) (i : Nat) (sid : String) : DStep w (w.shutdownSession i sid) := by
  refine shutdown_rel DStep.refl DStep.trans DStep.of_moves (fun w i s => ?_) d_sessDelete w i sid
  exact (d_setNode_sub w i { w.node i with reg := (w.node i).reg.filter (fun x => x.id != s.id) }
    (fun _ hs' => (List.mem_filter.mp hs').1)).trans (DStep.of_nodes rfl)

theorem d_clientPacket (w : World) (conn : String) (pkt : CPkt) : DStep w (w.clientPacket conn pkt) :=
  clientPacket_rel DStep.refl DStep.trans conn DStep.of_moves (fun w i _ hs => d_setSess w i _ hs)
    (fun w i => d_shutdown w i _) w pkt

theorem d_connPre (w : World) (c : String) (i : Nat) (client mount : String) : DStep w (connPre w c i client mount) :=
  connPre_rel DStep.refl DStep.trans d_conns d_sessDelete w c i client mount

theorem d_connMid (w : World) (c : String) (i : Nat) (client mount : String) (will : Option Will) :
    DStep w (connMid w c i client mount will) :=
  connMid_rel DStep.refl DStep.trans d_conns d_sessDelete d_tick d_setDist d_broadcast w c i client mount will

theorem d_drop (w : World) (c : String) : DStep w (w.drop c) :=
  drop_rel DStep.refl DStep.trans c d_conns (fun w => d_emit w c _) (fun w i => d_shutdown w i _) w

/-! ### gossip, node failure, time -/

theorem d_deliverGossip (w : World) (src dst : Nat) : DStep w (w.deliverGossip src dst) :=
  deliverGossip_rel DStep.refl DStep.trans (fun w i _ => d_setNode_same w i _) d_setDist w src dst

theorem d_gossipAll (w : World) : DStep w w.gossipAll := gossipAll_rel DStep.refl DStep.trans d_deliverGossip w

theorem d_notifyLeave (w : World) (i : Nat) (peer : Nat) : DStep w (w.notifyLeave i peer) :=
  notifyLeave_rel DStep.refl DStep.trans DStep.of_moves (leavePrefix_rel DStep.refl DStep.trans d_tick d_setDist d_broadcast)
    (fun w i _ => d_setNode_same w i _) w i peer

theorem d_nodeFail (w : World) (f : Nat) : DStep w (w.nodeFail f) :=
  nodeFail_rel DStep.refl DStep.trans (fun w f => d_setNode_sub w f _ (fun _ hs' => nomatch hs')) d_conns
    (fun w c => d_emit w c _) d_notifyLeave w f

theorem d_idle (w : World) (ms : Int) : DStep w (w.idle ms) :=
  idle_rel DStep.refl DStep.trans (fun _ _ => DStep.of_nodes rfl) (fun w i _ => d_setNode_same w i _) d_tick d_setDist
    d_broadcast d_shutdown w ms

/-! ### the invariant; CONNECT -/

/-- the connection of every registered session is not listed in `deaf` -/
def DInv (w : World) : Prop := ∀ i, ∀ s ∈ (w.node i).reg, w.deaf.contains s.conn = false

/-- … except for sessions on connection `c` -/
def DInvE (c : String) (w : World) : Prop := ∀ i, ∀ s ∈ (w.node i).reg, s.conn ≠ c → w.deaf.contains s.conn = false

/-- sessions on connection `c` are no exception: `c` is not listed, or there is none -/
def Good (c : String) (w : World) : Prop := w.deaf.contains c = false ∨ NoConn c w

/-- as `DStep`, but a session may be registered on connection `c`, and `c` may be listed in `deaf` -/
structure DStepE (c : String) (w w' : World) : Prop where
  reg : ∀ j, ∀ s' ∈ (w'.node j).reg, s'.conn = c ∨ ∃ s ∈ (w.node j).reg, s.conn = s'.conn
  deaf : ∀ x ∈ w'.deaf, x = c ∨ x ∈ w.deaf

theorem DStep.toE {w w' : World} (h : DStep w w') (c : String) : DStepE c w w' :=
  ⟨fun j s' hs' => Or.inr (h.reg j s' hs'), fun x hx => Or.inr (h.deaf x hx)⟩

theorem DStepE.trans {c : String} {a b d : World} (h1 : DStepE c a b) (h2 : DStepE c b d) : DStepE c a d := by
  refine ⟨fun j s' hs' => ?_, fun x hx => ?_⟩
  · rcases h2.reg j s' hs' with e | ⟨s1, hs1, e1⟩
    · exact Or.inl e
    · rcases h1.reg j s1 hs1 with e | ⟨s0, hs0, e0⟩
      · exact Or.inl (e1 ▸ e)
      · exact Or.inr ⟨s0, hs0, e0.trans e1⟩
  · rcases h2.deaf x hx with e | hx1
    · exact Or.inl e
    · exact h1.deaf x hx1

theorem DInv.step {w w' : World} (h : DInv w) (hs : DStep w w') : DInv w' := by
  intro i s' hs'
  obtain ⟨s, hmem, e⟩ := hs.reg i s' hs'
  rw [← e, not_contains]
  exact fun hx => not_contains.mp (h i s hmem) (hs.deaf _ hx)

theorem DInvE.step {c : String} {w w' : World} (h : DInvE c w) (hs : DStepE c w w') : DInvE c w' := by
  intro i s' hs' hne
  rcases hs.reg i s' hs' with e | ⟨s, hmem, e⟩
  · exact absurd e hne
  · rw [not_contains]
    intro hx
    rcases hs.deaf _ hx with e2 | hx0
    · exact hne e2
    · have := h i s hmem (by rw [e]; exact hne)
      rw [not_contains, e] at this
      exact this hx0

theorem DInv.toE {w : World} (h : DInv w) (c : String) : DInvE c w := fun i s hs _ => h i s hs

theorem DInv.of_E {c : String} {w : World} (h : DInvE c w) (hg : Good c w) : DInv w := by
  intro i s hs
  by_cases e : s.conn = c
  · rcases hg with hd | hno
    · rw [e]; exact hd
    · exact absurd e (hno i s hs)
  · exact h i s hs e

theorem dE_register {c : String} (w : World) (i : Nat) (s : Sess) (hc : s.conn = c) :
    DStepE c w (w.setNode i { w.node i with reg := (w.node i).reg ++ [s] }) := by
  refine ⟨fun j s' hs' => ?_, fun _ hx => Or.inr hx⟩
  rw [node_setNode] at hs'
  split at hs'
  · rename_i hji
    rcases List.mem_append.mp hs' with h1 | h1
    · rw [hji.1]; exact Or.inr ⟨s', h1, rfl⟩
    · exact Or.inl (by rw [List.mem_singleton.mp h1]; exact hc)
  · exact Or.inr ⟨s', hs', rfl⟩

theorem DStepE.of_acts {c : String} {w w' : World} (h : Acts c w w') : DStepE c w w' :=
  h.rel (refl := fun w => (DStep.refl w).toE c) (trans := DStepE.trans) (moves := fun h => (DStep.of_moves h).toE c)
    (frame := fun hn _ hd => ⟨fun j s' hs' => Or.inr ⟨s', node_congr hn j ▸ hs', rfl⟩, hd⟩)
    (disconnected := fun w i _ hs => (d_setSess w i _ hs).toE c) (shutdown := fun w i => (d_shutdown w i _).toE c)
    (sessDelete := fun w i sid => (d_sessDelete w i sid).toE c)
    (record := fun w i d _ => ((d_tick w).trans (d_setDist _ i d)).toE c)
    (broadcast := fun w i ev => (d_broadcast w i ev).toE c) (register := fun w i s _ hc => dE_register w i s hc)

theorem connect_true_deaf (w : World) (c : String) (i : Nat) (client mount : String) (ka : Nat) (will : Option Will) :
    ∀ x ∈ (w.connect c i client mount true ka will).deaf, x ∈ w.deaf := by
  rw [connect_eq]
  split
  · exact (((d_connPre w c i client mount).trans (d_tick _)).trans (d_emit _ c .closed)).deaf
  · -- `connMid` is hidden first: left to the unifier, it is unfolded before `emit` and `setNode` are
    have h := d_connMid w c i client mount will
    generalize connMid w c i client mount will = W at h
    exact h.deaf

theorem good_connect {w : World} {c : String} (hd : w.deaf.contains c = false) (hno : NoConn c w) (i : Nat)
    (client mount : String) (authOk : Bool) (ka : Nat) (will : Option Will) :
    Good c (w.connect c i client mount authOk ka will) := by
  cases authOk with
  | false => exact Or.inr (noConn_congr hno rfl)
  | true =>
    exact Or.inl (not_contains.mpr fun hx => not_contains.mp hd (connect_true_deaf w c i client mount ka will c hx))

theorem dinv_connect {w : World} (hI : DInv w) {c : String} (hd : w.deaf.contains c = false) (hno : NoConn c w) (i : Nat)
    (client mount : String) (authOk : Bool) (ka : Nat) (will : Option Will) :
    DInv (w.connect c i client mount authOk ka will) :=
  DInv.of_E ((hI.toE c).step (.of_acts (acts_connect w c i client mount authOk ka will)))
    (good_connect hd hno i client mount authOk ka will)

/-! ### the byte-level path (Wasp/Model/Wire.lean) -/
open Wasp.Wire

theorem d_setBuf (w : World) (c : String) (b : Wire.Bytes) : DStep w (setBuf w c b) := DStep.of_nodes rfl

theorem d_failConn (w : World) (c : String) : DStep w (failConn w c) :=
  failConn_rel DStep.refl DStep.trans c d_conns (fun w => d_emit w c _) (fun w i => d_shutdown w i _) w

theorem dinv_applyDecoded {w : World} (h : GI w) (hI : DInv w) {c : String} (hd : w.deaf.contains c = false)
    (r : DRes) : DInv (applyDecoded w c r) :=
  applyDecoded_elim DStep.refl DStep.trans c (d_clientPacket · c) (d_failConn · c) (fun _ hs => hI.step hs)
    (fun _ i client mount authOk ka will hf hno =>
      dinv_connect hI hd (noConn_of_noSess h.2 hf hno) i client mount authOk ka will) r

theorem dinv_pump (c : String) (fuel : Nat) : ∀ w : World, GI w → DInv w → DInv (pump fuel w c).1 := by
  induction fuel with
  | zero => intro w _ hI; exact hI
  | succ fuel ih =>
    intro w h hI
    unfold pump
    split
    · exact hI.step (d_setBuf _ _ _)
    · split
      · exact hI.step (d_setBuf _ _ _)
      · rename_i hdeaf
        have hd : w.deaf.contains c = false := by simpa using hdeaf
        split
        · exact hI
        · exact hI.step ((d_setBuf _ _ _).trans (d_failConn _ _))
        · exact ih _ (gi_applyDecoded (gi_setBuf h _ _) _ _)
            (dinv_applyDecoded (gi_setBuf h _ _) (hI.step (d_setBuf _ _ _)) hd _)

theorem dinv_rawBytes {w : World} (h : GI w) (hI : DInv w) (c : String) (b : Wire.Bytes) : DInv (rawBytes w c b).1 := by
  unfold rawBytes
  split
  · exact hI
  · exact dinv_pump c _ _ (gi_setBuf h _ _) (hI.step (d_setBuf _ _ _))

theorem dinv_closeRaw {w : World} (h : GI w) (hI : DInv w) (c : String) : DInv (closeFromClientRaw w c) :=
  DInv.of_E ((hI.toE c).step (.of_acts (acts_closeFromClientRaw w c))) (Or.inr (gi_closeRaw h c).2)

theorem dinv_closeFromClient {w : World} (h : GI w) (hI : DInv w) (c : String) : DInv (closeFromClient w c) := by
  unfold closeFromClient
  exact (dinv_closeRaw h hI c).step (DStep.of_nodes rfl)

theorem dinv_hsStep {w : World} (h : GI w) (hI : DInv w) (e : String × Int) : DInv (AgentT1.hsStep w e) := by
  unfold AgentT1.hsStep
  split
  · exact dinv_closeRaw (gi_frame (w' := { w with hs := w.hs.filter (fun x => x.1 != e.1) }) h rfl rfl rfl)
      (hI.step (DStep.of_nodes rfl)) _
  · exact hI

/-- the registry invariants of Wasp/Proofs/BrokerT5.lean and the new one together -/
def J (w : World) : Prop := GI w ∧ DInv w

theorem j_expireHandshakes {w : World} (h : J w) : J (expireHandshakes w) := by
  rw [AgentT1.expire_eq]
  exact foldl_inv J _ _ _ h (fun b a _ hb => ⟨gi_hsStep hb.1 a, dinv_hsStep hb.1 hb.2 a⟩)

theorem dinv_wireIdle {w : World} (h : GI w) (hI : DInv w) (ms : Int) : DInv (Wasp.Wire.idle w ms) := by
  unfold Wasp.Wire.idle
  exact (j_expireHandshakes ⟨gi_wire.idle h ms, hI.step (d_idle w ms)⟩).2

theorem dinv_elapse {w : World} (h : GI w) (hI : DInv w) (ms : Int) : DInv (Wasp.Wire.elapse w ms) := by
  unfold Wasp.Wire.elapse
  refine dinv_wireIdle (gi_wire.shift h ms) ?_ ms
  intro i s hs
  rw [shift_node] at hs
  exact hI i s hs

/-! ### the operations of `applyOp` -/

theorem dinv_init (n : Nat) : DInv (World.init n) := fun _ _ _ => rfl

/-- CONNECT on a connection name that is not in use: `applyOp` clears the name from `deaf` first -/
theorem dinv_reconnect {w w' : World} (hI : DInv w) {c : String} (hno : NoConn c w) (i : Nat) (client mount : String)
    (authOk : Bool) (ka : Nat) (will : Option Will) (hn : w'.nodes = w.nodes := by rfl)
    (hd : w'.deaf = w.deaf.filter (· != c) := by rfl) : DInv (w'.connect c i client mount authOk ka will) :=
  dinv_connect (hI.step (DStep.of_nodes hn (fun _ hx => (List.mem_filter.mp (hd ▸ hx)).1)))
    (hd ▸ contains_filter_ne_self w.deaf c) (noConn_congr hno hn) i client mount authOk ka will

theorem dinv_op {w : World} (h : GI w) (hI : DInv w) (op : BOp) : DInv (applyOp w op) := by
  cases op with
  | connect c node client mount authOk ka will =>
    simp only [applyOp]
    split
    · exact dinv_reconnect (hI.step (d_drop w c)) (gi_drop h c).2 node client mount authOk ka will
    · rename_i hany
      exact dinv_reconnect hI (noConn_of_find_none h.2 (any_false_find hany)) node client mount authOk ka will
  | packet c pkt =>
    simp only [applyOp]
    split
    · exact hI.step (d_clientPacket _ _ _)
    · exact hI
  | drop c => exact dinv_closeFromClient h hI c
  | openConn c node =>
    simp only [applyOp]
    refine DInv.step (w := if w.conns.any (fun e => e.1 == c) then closeFromClient w c else w) ?_
      (DStep.of_nodes rfl (fun _ hx => (List.mem_filter.mp hx).1))
    split
    · exact dinv_closeFromClient h hI c
    · exact hI
  | raw c b => exact dinv_rawBytes h hI c b
  | gossipAll => exact hI.step (d_gossipAll w)
  | gossip f t => exact hI.step (d_deliverGossip w f t)
  | gossipOne f t k =>
    simp only [applyOp]
    split
    · exact hI
    · split
      · exact hI.step (d_setNode_same w f _)
      · exact hI.step ((d_setNode_same w f _).trans (d_setNode_same _ t _))
  | loseGossip f t => exact hI.step (d_setNode_same w f _)
  | sync f t => exact hI.step (d_setNode_same w t _)
  | unreachable n b => exact hI.step (d_setNode_same w n _)
  | logFailAll n b => exact hI.step (d_setNode_same w n _)
  | logFailAt n k => exact hI.step (d_setNode_same w n _)
  | logFailNone n => exact hI.step (d_setNode_same w n _)
  | nodeFail n => exact hI.step (d_nodeFail w n)
  | sweep n => exact hI.step (.of_moves (moves_sweep w n))
  | idle ms => exact dinv_wireIdle h hI ms
  | elapse ms => exact dinv_elapse h hI ms
  | setPool n lo hi =>
    simp only [applyOp]
    split
    · exact hI.step (d_setNode_same w n _)
    · exact hI
  | rpcPublish n topic payload => exact hI.step (.of_moves (moves_distribute w n _))

theorem j_step {w : World} (h : J w) (op : BOp) : J (applyOp w op) := ⟨gi_step h.1 op, dinv_op h.1 h.2 op⟩

/-- on every reachable world the connection of every registered session is not listed in `deaf` -/
theorem reachable_dinv (w : World) (h : Reachable w) : DInv w :=
  (h.ind (P := J) (fun n => ⟨gi_init n, dinv_init n⟩) (fun _ op hw => j_step hw op)).2

end Wasp.Broker.AgentT14
