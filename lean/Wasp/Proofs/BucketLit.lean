import Wasp.Generated.BucketLit
import Wasp.Model.AckQueue
import Wasp.Proofs.AckQueue
import Wasp.Proofs.GoLit
/-! The tie by translation for the timeout buckets of the ack queue.

`Wasp.Generated.BucketLit.put` / `.delete` are the LITERAL renderings of `(*bucket).put` /
`(*bucket).delete` (wasp/expiration/bucket.go) produced by extract/imperative.go on every run
(append + `sort.SliceStable`; `sort.Search` + the `for` loop with index arithmetic; `none` = a
panic or the loop bound `len(b.data)` exceeded). They are proven equal to the hand-written
structural model `Wasp.Ack.bucketPut` / `Wasp.Ack.bucketDelete` on every bucket whose items
are sorted by deadline (`Wasp.Ack.Sorted`, the invariant the AckQueue proofs maintain). -/
namespace Wasp.Ack.BucketLit
open Wasp.Generated.BucketLit

def itemLit (it : Item) : item := ⟨it.value, it.deadline⟩

/-- the obvious conversion; the fields `index` (heap position) and `deadline` (rounded key) of
    the Go bucket are not touched by put/delete and are carried along -/
def toLit (index dl : Int) (b : List Item) : bucket := ⟨index, b.map itemLit, dl⟩

/-! ### put -/

theorem bucketPut_front (it : Item) (b : List Item) (h : ∀ y ∈ b, it.deadline < y.deadline) :
    bucketPut it b = it :: b := by
  cases b with
  | nil => rfl
  | cons y ys => simp [bucketPut, h y (by simp)]

theorem lt_lit_true {a b : Item} (h : a.deadline < b.deadline) :
    Go.lt (itemLit a).deadline (itemLit b).deadline = true := by
  show decide (a.deadline < b.deadline) = true
  exact decide_eq_true h

theorem lt_lit_false {a b : Item} (h : b.deadline ≤ a.deadline) :
    Go.lt (itemLit a).deadline (itemLit b).deadline = false := by
  show decide (a.deadline < b.deadline) = false
  exact decide_eq_false (Int.not_lt.mpr h)

theorem foldr_insert_eq (it : Item) (b : List Item) (hs : Sorted b) :
    (b.map itemLit).foldr (Go.insertBy fun e_i e_j : item => Go.lt e_i.deadline e_j.deadline) [itemLit it]
      = (bucketPut it b).map itemLit := by
  induction b with
  | nil => rfl
  | cons x rest ih =>
    simp only [Sorted, List.pairwise_cons] at hs
    simp only [List.map_cons, List.foldr_cons, ih hs.2]
    by_cases hlt : it.deadline < x.deadline
    · have hfront : bucketPut it rest = it :: rest :=
        bucketPut_front it rest (fun y hy => Int.lt_of_lt_of_le hlt (hs.1 y hy))
      simp only [bucketPut, hlt, if_true, hfront, List.map_cons]
      rw [Go.insertBy, if_pos (lt_lit_true hlt), Go.insertBy_front]
      intro y hy
      obtain ⟨z, hz, rfl⟩ := List.mem_map.1 hy
      exact lt_lit_false (hs.1 z hz)
    · simp only [bucketPut, hlt, if_false, List.map_cons]
      apply Go.insertBy_front
      intro y hy
      obtain ⟨z, hz, rfl⟩ := List.mem_map.1 hy
      rcases mem_bucketPut.mp hz with rfl | hz
      · exact lt_lit_false (Int.not_lt.mp hlt)
      · exact lt_lit_false (hs.1 z hz)

/-- put as written (append, then sort.SliceStable by deadline) = the model's `bucketPut`
    (insert before the first later item), on a bucket sorted by deadline. `Sorted` is needed:
    the code re-sorts the whole slice, the model only places the new item. It never panics. -/
theorem putLit_eq (index dl : Int) (b : List Item) (hs : Sorted b) (v : Key) (d : Time) :
    Wasp.Generated.BucketLit.put (toLit index dl b) v d = some (toLit index dl (bucketPut ⟨v, d⟩ b)) := by
  simp only [Generated.BucketLit.put, toLit, Go.sortStableBy_append_singleton]
  rw [show ({ value := v, deadline := d } : item) = itemLit ⟨v, d⟩ from rfl, foldr_insert_eq _ b hs]

/-! ### delete -/

theorem bucketDelete_append (v : Key) (d : Time) (pre rest : List Item) (h : ∀ x ∈ pre, x.deadline < d) :
    bucketDelete v d (pre ++ rest) = (pre ++ (bucketDelete v d rest).1, (bucketDelete v d rest).2) := by
  induction pre with
  | nil => rfl
  | cons x pre ih =>
    have hx := h x (by simp)
    simp [bucketDelete, hx, ih (fun y hy => h y (by simp [hy]))]

theorem natCast_length_map (pre : List Item) : (pre.length : Int) = ((pre.map itemLit).length : Int) := by
  rw [List.length_map]

theorem turn_nil (index dl : Int) (v : Key) (d : Time) (pre : List Item) :
    delete_loop1 v d (toLit index dl pre, (pre.length : Int))
      = some (Go.Ctl.done (toLit index dl pre, (pre.length : Int))) := by
  simp [delete_loop1, toLit, Go.lt, Go.eq, Go.inRange, Go.len]

theorem turn_cons (index dl : Int) (v : Key) (d : Time) (pre : List Item) (x : Item) (rest : List Item) :
    delete_loop1 v d (toLit index dl (pre ++ x :: rest), (pre.length : Int))
      = if x.deadline = d then
          if x.value = v then some (Go.Ctl.ret (toLit index dl (pre ++ rest), true))
          else some (Go.Ctl.next (toLit index dl (pre ++ x :: rest), (pre.length : Int) + 1))
        else some (Go.Ctl.done (toLit index dl (pre ++ x :: rest), (pre.length : Int))) := by
  rw [natCast_length_map]
  simp only [delete_loop1, toLit, List.map_append, List.map_cons, Go.lt_len_append_length,
    Go.inRange_append_length, Go.index_append_length, Go.sliceToOk_append_length,
    Go.sliceFromOk_append_length_succ, Go.sliceTo_append_length, Go.sliceFrom_append_length_succ,
    Bool.not_true, Bool.false_or, Bool.true_and, Bool.and_self, if_true, Go.eq_iff, itemLit]

theorem loop_spec (index dl : Int) (v : Key) (d : Time) :
    ∀ (rest pre : List Item) (fuel : Nat), rest.length < fuel → (∀ x ∈ rest, d ≤ x.deadline) →
      ((bucketDelete v d rest).2 = true ∧
        Go.loop fuel (toLit index dl (pre ++ rest), (pre.length : Int)) (delete_loop1 v d)
          = some (Go.Ctl.ret (toLit index dl (pre ++ (bucketDelete v d rest).1), true))) ∨
      (bucketDelete v d rest = (rest, false) ∧ ∃ k,
        Go.loop fuel (toLit index dl (pre ++ rest), (pre.length : Int)) (delete_loop1 v d)
          = some (Go.Ctl.done (toLit index dl (pre ++ rest), k))) := by
  intro rest
  induction rest with
  | nil =>
    intro pre fuel hf _
    obtain ⟨n, rfl⟩ : ∃ n, fuel = n + 1 := ⟨fuel - 1, (Nat.sub_add_cancel hf).symm⟩
    exact .inr ⟨rfl, pre.length, by rw [List.append_nil, Go.loop, turn_nil]⟩
  | cons x rest ih =>
    intro pre fuel hf hge
    obtain ⟨n, rfl⟩ : ∃ n, fuel = n + 1 := ⟨fuel - 1, (Nat.sub_add_cancel (Nat.lt_of_le_of_lt (Nat.zero_le _) hf)).symm⟩
    have hx : d ≤ x.deadline := hge x List.mem_cons_self
    rw [Go.loop, turn_cons]
    rcases bucketDelete_cons_cases v d x with h | rfl | h
    · -- deadline `d`, another value: the loop goes on
      have hd : x.deadline = d ∧ x.value ≠ v := h.resolve_left (Int.not_lt.mpr hx)
      rw [bucketDelete_cons_skip rest h, if_pos hd.1, if_neg hd.2]
      have := ih (pre ++ [x]) n (Nat.lt_of_succ_lt_succ hf) (fun y hy => hge y (List.mem_cons_of_mem _ hy))
      simp only [List.append_assoc, List.singleton_append, List.length_append, List.length_singleton,
        Int.natCast_add, Int.natCast_one] at this
      rcases this with ⟨h1, h2⟩ | ⟨h1, k, h2⟩
      · exact .inl ⟨h1, h2⟩
      · exact .inr ⟨by rw [h1], k, h2⟩
    · rw [bucketDelete_cons_hit, if_pos rfl, if_pos rfl]
      exact .inl ⟨rfl, rfl⟩
    · rw [bucketDelete_cons_stop rest h, if_neg (Int.ne_of_gt h)]
      exact .inr ⟨rfl, _, rfl⟩

/-- delete as written (sort.Search, then the scan loop with index arithmetic) = the model's
    `bucketDelete` (one linear walk), on a bucket PARTITIONED with respect to `d` -/
theorem deleteLit_eq_of_partition (index dl : Int) (pre rest : List Item) (v : Key) (d : Time)
    (h1 : ∀ x ∈ pre, x.deadline < d) (h2 : ∀ x ∈ rest, d ≤ x.deadline) :
    Wasp.Generated.BucketLit.delete (toLit index dl (pre ++ rest)) v d
      = some (toLit index dl (bucketDelete v d (pre ++ rest)).1, (bucketDelete v d (pre ++ rest)).2) := by
  have hs := Go.search_append (fun x : item => !Go.lt x.deadline d) (pre.map itemLit) (rest.map itemLit)
    (by intro x hx; obtain ⟨y, hy, rfl⟩ := List.mem_map.1 hx
        show (!decide (y.deadline < d)) = false
        simp [h1 y hy])
    (by intro x hx; obtain ⟨y, hy, rfl⟩ := List.mem_map.1 hx
        show (!decide (y.deadline < d)) = true
        rw [decide_eq_false (Int.not_lt.mpr (h2 y hy))]; rfl)
  have hg : Go.forallBelow (Go.len (List.map itemLit (pre ++ rest))) (fun i => Go.inRange (List.map itemLit (pre ++ rest)) i) = true := by
    rw [Go.forallBelow_iff]; intro i h0 hi; rw [Go.inRange_iff]; exact ⟨h0, hi⟩
  simp only [← List.map_append, List.length_map] at hs
  have hl := loop_spec index dl v d rest pre ((Go.len (List.map itemLit (pre ++ rest))).toNat + 1)
    (by simp [Go.len]; omega) h2
  rw [bucketDelete_append v d pre rest h1]
  simp only [Generated.BucketLit.delete]
  simp only [toLit] at hl ⊢
  simp only [hg, hs, if_true]
  rcases hl with ⟨e1, e2⟩ | ⟨e1, k, e2⟩
  · simp only [e2, e1]
  · simp only [e2, e1]

theorem deleteLit_eq (index dl : Int) (b : List Item) (hs : Sorted b) (v : Key) (d : Time) :
    Wasp.Generated.BucketLit.delete (toLit index dl b) v d
      = some (toLit index dl (bucketDelete v d b).1, (bucketDelete v d b).2) := by
  obtain ⟨pre, rest, e, h1, h2⟩ := Go.exists_partition Item.deadline d hs
  subst e
  exact deleteLit_eq_of_partition index dl pre rest v d h1 h2


/-- `Sorted` cannot be dropped from `putLit_eq` / `deleteLit_eq` -/
theorem putLit_ne_unsorted :
    Wasp.Generated.BucketLit.put (toLit 0 0 [⟨"a", 5⟩, ⟨"b", 1⟩]) "c" 3
      ≠ some (toLit 0 0 (bucketPut ⟨"c", 3⟩ [⟨"a", 5⟩, ⟨"b", 1⟩])) := by
  decide +kernel

theorem deleteLit_ne_unsorted :
    Wasp.Generated.BucketLit.delete (toLit 0 0 [⟨"a", 5⟩, ⟨"b", 1⟩]) "a" 5
      ≠ some (toLit 0 0 (bucketDelete "a" 5 [⟨"a", 5⟩, ⟨"b", 1⟩]).1, (bucketDelete "a" 5 [⟨"a", 5⟩, ⟨"b", 1⟩]).2) := by
  decide +kernel

end Wasp.Ack.BucketLit
