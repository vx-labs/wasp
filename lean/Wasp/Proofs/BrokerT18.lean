import Wasp.Model.BrokerOps
import Wasp.Proofs.BrokerT12
/-! The middle of an outbound QoS 2 delivery, for Wasp/Properties/C03C14E2E.lean: PUBREC answered by PUBREL, which the sweep
    repeats. The PUBLISH before and the PUBCOMP after are in BrokerT12.lean. -/
namespace Wasp.Broker.AgentT18
open Wasp.Broker Wasp.Dist Wasp.Topic Wasp.Broker.AgentC Wasp.Broker.AgentT6 Wasp.Broker.AgentT12

theorem pubrec_flight (w w1 : World) (sid t pl : String) (rt d : Bool) (mid : Int) (m : Ack.Msg)
    (hF : Flight w w1 sid mid m (.out2 sid t pl rt d mid)) (hm : m.state = .pubrec) (hlen : w.nodes.length = 1)
    (s' : Sess) (hs' : (w1.node 0).sess sid = some s') (hmid : mid ≠ 0)
    (hfresh : Ack.msgFind (Ack.hashKey sid mid) (w.node 0).acks.msgs = none)
    (hsf : storedFind (Ack.hashKey sid mid) (w.node 0).stored = none) :
    (w1.process 0 sid (.pubrec mid)).1.out = w1.out ++ [(s'.conn, .pubrel mid)] ∧
    Flight w (w1.process 0 sid (.pubrec mid)).1 sid mid (msgRel w.epoch mid) (.rel sid mid) := by
  obtain ⟨v, hv, hout, hl, hep, hst, ha, hp, hr⟩ := ackFrom_flight w w1 sid mid m _ .pubrec hF hm hlen (fun _ _ _ _ h => by cases h)
    hfresh hsf
  have hsv : (v.node 0).sess sid = some s' := by
    simp only [Node.sess, hr]; exact hs'
  have hres : v.onResolved 0 ⟨Ack.hashKey sid mid, false, m.stored⟩ (.out2 sid t pl rt d mid) = v.armAndSend 0 (.rel sid mid) := by
    simp [World.onResolved, hsv]
  obtain ⟨hS, hO⟩ := armAndSend_sentG (w := v) (i := 0) (st := .rel sid mid) (ack := .pubcomp) rfl rfl (by omega) hsv hmid
    (by rw [ha]; exact hfresh)
  rw [process_pubrec hs', hv, hres]
  refine ⟨by rw [hO, hout], ?_, ?_, ?_, ?_, ?_, ?_⟩
  · rw [hS.len, hl]
  · rw [hS.epoch, hep]
  · rw [hS.acks, ha, hep]
    rfl
  · rw [hS.stored, hst]
  · rw [hS.pool, hp]
  · exact (hF.cm.trans (CM.of_reg_eq hr)).trans hS.cm

/-- silence after the PUBREL: the sweep writes the PUBREL again -/
theorem sweep_rel (w w' : World) (sid : String) (mid : Int) (m : Ack.Msg)
    (hF : Flight w w' sid mid m (.rel sid mid)) (hlen : w.nodes.length = 1)
    (hq : Ack.QInv (w'.node 0).acks) (hd : m.deadline = (w.epoch : Int) * 10000 + 3000)
    (s' : Sess) (hs' : (w'.node 0).sess sid = some s') (hmid : mid ≠ 0)
    (hidle : (w.node 0).acks.msgs = [])
    (hsf : storedFind (Ack.hashKey sid mid) (w.node 0).stored = none) :
    (w'.sweep 0).out = w'.out ++ [(s'.conn, .pubrel mid)] := by
  obtain ⟨w1, hsw, hout1, hi1, hreg1, hmsgs1⟩ := sweep_flight w w' sid mid m _ hF hlen hq hd hidle hsf
  have hs1 : (w1.node 0).sess sid = some s' := by
    simp only [Node.sess, hreg1]; exact hs'
  have hr : w1.onResolved 0 ⟨Ack.hashKey sid mid, true, m.stored⟩ (.rel sid mid) = w1.armAndSend 0 (.rel sid mid) := by
    simp [World.onResolved, hs1]
  rw [hsw, hr, (armAndSend_rel w1 0 hi1 sid mid s' hs1 hmid (by rw [hmsgs1]; rfl)).out, hout1]

end Wasp.Broker.AgentT18
