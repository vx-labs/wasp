import Wasp.Proofs.BrokerF
/-! helper lemmas for Wasp/Properties/C18E2E.lean

`Stay sid w w'`: going from `w` to `w'`, on every node
* every session id other than `sid` resolves to a registry entry with the same connection and mount point
  (or to none, as before), and
* every stored subscription of a session other than `sid` is still stored, unchanged, under the same key;
* the number of nodes is the same.
Everything bytes on connection `h` can trigger is `Stay ("S" ++ h)`. -/
namespace Wasp.Broker.AgentT11
open Wasp.Broker Wasp.Dist Wasp.Wire Wasp.Topic Wasp.Broker.AgentD Wasp.Broker.AgentF

/-! ### subscriptions of other sessions survive `subsSet` -/

def SubKeep (sid : String) (m m' : List (String × List Sub)) : Prop :=
  ∀ kl ∈ m, ∀ u ∈ kl.2, u.session ≠ sid → ∃ kl' ∈ m', kl'.1 = kl.1 ∧ u ∈ kl'.2

theorem SubKeep.refl (sid : String) (m : List (String × List Sub)) : SubKeep sid m m :=
  fun kl hkl _ hu _ => ⟨kl, hkl, rfl, hu⟩

theorem SubKeep.trans {sid : String} {a b c : List (String × List Sub)} (h1 : SubKeep sid a b)
    (h2 : SubKeep sid b c) : SubKeep sid a c := by
  intro kl hkl u hu hne
  obtain ⟨kl1, hkl1, e1, hu1⟩ := h1 kl hkl u hu hne
  obtain ⟨kl2, hkl2, e2, hu2⟩ := h2 kl1 hkl1 u hu1 hne
  exact ⟨kl2, hkl2, e2.trans e1, hu2⟩

theorem subListSet_keeps (s u : Sub) (L : List Sub) (hu : u ∈ L) (hne : u.session ≠ s.session) :
    u ∈ (subListSet s L).1 := by
  induction L with
  | nil => cases hu
  | cons x rest ih =>
    rw [subListSet_cons]
    simp only [List.mem_cons] at hu
    split
    · rename_i hx
      split
      · rcases hu with rfl | hu
        · exact absurd hx hne
        · simp [hu]
      · rcases hu with rfl | hu
        · simp
        · simp [ih hu]
    · rcases hu with rfl | hu
      · simp
      · simp [ih hu]

theorem subsAssign_cases (pat : String) (l : List Sub) (m : List (String × List Sub)) (kl : String × List Sub)
    (h : kl ∈ m) :
    kl ∈ subsAssign pat l m ∨ (kl.1 = pat ∧ kl.2 = subsLookup pat m ∧ (pat, l) ∈ subsAssign pat l m) := by
  induction m with
  | nil => cases h
  | cons y rest ih =>
    obtain ⟨k, l'⟩ := y
    simp only [List.mem_cons] at h
    by_cases hk : k = pat
    · simp only [subsAssign, subsLookup, hk, if_true]
      rcases h with rfl | h
      · right; simp [hk]
      · left; simp [h]
    · simp only [subsAssign, subsLookup, hk, if_false]
      rcases h with rfl | h
      · left; simp
      · rcases ih h with h1 | ⟨h1, h2, h3⟩
        · left; simp [h1]
        · right; exact ⟨h1, h2, by simp [h3]⟩

theorem subsSet_keep (s : Sub) (m : List (String × List Sub)) : SubKeep s.session m (subsSet s m) := by
  intro kl hkl u hu hne
  rw [subsSet_eq_sy]
  rcases subsAssign_cases s.pattern (subsSetList s m) m kl hkl with h | ⟨h1, h2, h3⟩
  · exact ⟨kl, h, rfl, hu⟩
  · refine ⟨_, h3, h1.symm, ?_⟩
    rw [h2] at hu
    have := subListSet_keeps s u _ hu hne
    unfold subsSetList
    split
    · exact this
    · simp [this]

/-! ### the relation -/

/-- what a bystander's packets are routed by: connection and mount point of its registry entry -/
def cm (s : Sess) : String × String := (s.conn, s.mount)

structure NStay (sid : String) (n n' : Node) : Prop where
  reg : ∀ x, x ≠ sid → (n'.sess x).map cm = (n.sess x).map cm
  subs : SubKeep sid n.dist.subs n'.dist.subs

theorem NStay.refl (sid : String) (n : Node) : NStay sid n n := ⟨fun _ _ => rfl, SubKeep.refl _ _⟩

theorem NStay.trans {sid : String} {a b c : Node} (h1 : NStay sid a b) (h2 : NStay sid b c) : NStay sid a c :=
  ⟨fun x hx => (h2.reg x hx).trans (h1.reg x hx), h1.subs.trans h2.subs⟩

theorem NStay.of_eq {sid : String} {n n' : Node} (hr : n'.reg = n.reg) (hd : n'.dist.subs = n.dist.subs) :
    NStay sid n n' := by
  refine ⟨fun x _ => ?_, ?_⟩
  · unfold Node.sess; rw [hr]
  · rw [hd]; exact SubKeep.refl _ _

theorem setSess_cm {n : Node} {sid0 : String} {s s' : Sess} (h : n.sess sid0 = some s) (hid : s'.id = s.id)
    (hc : s'.conn = s.conn) (hm : s'.mount = s.mount) (x : String) :
    ((n.setSess s').sess x).map cm = (n.sess x).map cm := by
  have hsid := (sess_some h).2
  rw [setSess_sess]
  cases hx : n.sess x with
  | none => rfl
  | some y =>
    simp only [Option.map_some]
    split
    · rename_i hy
      have h1 : y.id = s'.id := by simpa using hy
      have hyx := (sess_some hx).2
      have h2 : x = sid0 := by rw [← hyx, h1, hid, hsid]
      subst h2
      rw [h] at hx
      cases hx
      simp [cm, hc, hm]
    · rfl

theorem NStay.setSess (sid : String) {n : Node} {sid0 : String} {s s' : Sess} (h : n.sess sid0 = some s)
    (hid : s'.id = s.id) (hc : s'.conn = s.conn) (hm : s'.mount = s.mount) : NStay sid n (n.setSess s') :=
  ⟨fun x _ => setSess_cm h hid hc hm x, SubKeep.refl _ _⟩

structure Stay (sid : String) (w w' : World) : Prop where
  len : w'.nodes.length = w.nodes.length
  node : ∀ j, NStay sid (w.node j) (w'.node j)

theorem Stay.refl (sid : String) (w : World) : Stay sid w w := ⟨rfl, fun _ => NStay.refl _ _⟩

theorem Stay.trans {sid : String} {a b c : World} (h1 : Stay sid a b) (h2 : Stay sid b c) : Stay sid a c :=
  ⟨h2.len.trans h1.len, fun j => (h1.node j).trans (h2.node j)⟩

theorem Stay.of_nodes {sid : String} {w w' : World} (h : w'.nodes = w.nodes) : Stay sid w w' :=
  ⟨by rw [h], fun j => by rw [node_congr h]; exact NStay.refl _ _⟩

theorem Stay.setNode (sid : String) (w : World) (i : Nat) (n' : Node) (h : NStay sid (w.node i) n') :
    Stay sid w (w.setNode i n') := by
  refine ⟨by simp, fun j => ?_⟩
  rw [node_setNode]
  split
  · rename_i hc; rw [hc.1]; exact h
  · exact NStay.refl _ _

theorem Stay.setNode_same (sid : String) (w : World) (i : Nat) (n' : Node) (hr : n'.reg = (w.node i).reg)
    (hd : n'.dist.subs = (w.node i).dist.subs) : Stay sid w (w.setNode i n') :=
  Stay.setNode sid w i n' (NStay.of_eq hr hd)

/-! ### the elementary updates -/

theorem st_tick (sid : String) (w : World) : Stay sid w w.tick.1 := Stay.of_nodes rfl

theorem st_emit (sid : String) (w : World) (c : String) (p : Pkt) : Stay sid w (w.emit c p) := Stay.of_nodes rfl

theorem st_broadcast (sid : String) (w : World) (i : Nat) (ev : Event) : Stay sid w (w.broadcast i ev) := by
  unfold World.broadcast
  exact Stay.setNode_same _ _ _ _ rfl rfl

theorem st_write (sid : String) (w : World) (i : Nat) (n' : Node) (h : NStay sid (w.node i) n') :
    Stay sid w (w.tick.1.setNode i n') :=
  (st_tick sid w).trans (Stay.setNode sid _ i n' h)

theorem st_write_cast (sid : String) (w : World) (i : Nat) (n' : Node) (ev : Event) (h : NStay sid (w.node i) n') :
    Stay sid w ((w.tick.1.setNode i n').broadcast i ev) :=
  (st_write sid w i n' h).trans (st_broadcast sid _ i ev)

theorem st_extendDeadline (sid : String) (w : World) (i : Nat) (sid0 : String) :
    Stay sid w (w.extendDeadline i sid0) :=
  extendDeadline_of (P := Stay sid w) (Stay.refl _ w)
    (fun _ hs => Stay.setNode _ _ _ _ (NStay.setSess sid hs rfl rfl rfl))

theorem subCreate_keep (st : State) (now : Int) (sid pat : String) (qos : Int) :
    SubKeep sid st.subs (Wasp.Dist.subCreate st now sid pat qos).1.subs :=
  subsSet_keep ⟨sid, pat, st.peer, qos, now, 0⟩ st.subs

theorem subDelete_keep (st : State) (now : Int) (sid pat : String) :
    SubKeep sid st.subs (Wasp.Dist.subDelete st now sid pat).1.subs :=
  subsSet_keep ⟨sid, pat, st.peer, 0, 0, now⟩ st.subs

theorem st_subCreate (w : World) (i : Nat) (sid pat : String) (qos : Int) : Stay sid w (w.subCreate i sid pat qos) := by
  simp only [World.subCreate]
  exact st_write_cast sid w i _ _ ⟨fun _ _ => rfl, subCreate_keep _ _ _ _ _⟩

theorem st_subDelete (w : World) (i : Nat) (sid pat : String) : Stay sid w (w.subDelete i sid pat) := by
  simp only [World.subDelete]
  exact st_write_cast sid w i _ _ ⟨fun _ _ => rfl, subDelete_keep _ _ _ _⟩

theorem st_sessDelete (sid : String) (w : World) (i : Nat) (sid0 : String) : Stay sid w (w.sessDelete i sid0) := by
  simp only [World.sessDelete]
  split
  · exact st_write_cast sid w i _ _ (NStay.of_eq rfl (sessDelete_subs _ _ _))
  · exact st_write sid w i _ (NStay.of_eq rfl (sessDelete_subs _ _ _))

theorem st_retainStep (sid : String) (w : World) (i : Nat) (p : Pub) : Stay sid w (retainStep w i p) := by
  unfold retainStep
  split
  · simp only [World.tick]
    refine st_write_cast sid w i _ _ (NStay.of_eq rfl ?_)
    split <;> rfl
  · exact Stay.refl _ w

theorem Stay.of_moves {sid : String} {w w' : World} (h : Moves (some sid) w w') : Stay sid w w' :=
  h.rel (refl := Stay.refl sid) (trans := Stay.trans) (emit := fun w c p _ => st_emit sid w c p)
    (epoch := fun _ => Stay.of_nodes rfl) (extendDeadline := st_extendDeadline sid)
    (subCreate := fun _ e w i => by cases e; exact st_subCreate w i sid)
    (subDelete := fun _ e w i => by cases e; exact st_subDelete w i sid) (retain := st_retainStep sid)
    (topics := fun _ _ w i _ _ hs => Stay.setNode sid w i _ (NStay.setSess sid hs rfl rfl rfl))
    (tables := fun w i _ _ _ _ _ => Stay.setNode_same sid w i _ rfl rfl)

/-! ### session end and CONNECT: only the sender's own id is touched -/

theorem sess_filter_ne (n : Node) (sid x : String) (hx : x ≠ sid) :
    Node.sess { n with reg := n.reg.filter (fun y => y.id != sid) } x = n.sess x := by
  unfold Node.sess
  simp only [List.find?_filter]
  apply find?_congr
  intro a _
  by_cases ha : a.id = x
  · simp [ha, hx]
  · simp [ha]

theorem st_tdBase (w : World) (i : Nat) (s : Sess) : Stay s.id w (tdBase w i s) := by
  unfold tdBase
  simp only
  refine Stay.trans ?_ (.of_moves (Moves.foldl (fun w t => .subDelete w i t) _ _))
  refine Stay.trans (b := unreg w i s.id) ?_ (Stay.of_nodes rfl)
  unfold unreg
  refine Stay.setNode _ _ _ _ ⟨fun x hx => ?_, SubKeep.refl _ _⟩
  rw [sess_filter_ne _ _ _ hx]

theorem st_teardown (w : World) (i : Nat) (s : Sess) : Stay s.id w (teardown w i s).1 := by
  rw [teardown_eq]
  split
  · exact (st_tdBase w i s).trans (st_sessDelete _ _ _ _)
  · exact st_tdBase w i s

theorem st_shutdown (w : World) (i : Nat) (sid : String) : Stay sid w (w.shutdownSession i sid) := by
  cases hs : (w.node i).sess sid with
  | none => rw [shutdown_none hs]; exact Stay.refl _ w
  | some s =>
    obtain ⟨_, rfl⟩ := sess_some hs
    exact (st_teardown w i s).trans (.of_moves (shutdown_moves hs).lift)

theorem sess_append_ne (n : Node) (s0 : Sess) (x : String) (hx : x ≠ s0.id) :
    Node.sess { n with reg := n.reg ++ [s0] } x = n.sess x := by
  unfold Node.sess
  have : (s0.id == x) = false := by simpa using fun h => hx h.symm
  simp [List.find?_append, this]

theorem Stay.of_acts {c : String} {w w' : World} (h : Acts c w w') : Stay ("S" ++ c) w w' :=
  h.rel (refl := Stay.refl _) (trans := Stay.trans) (moves := Stay.of_moves) (frame := fun hn _ _ => Stay.of_nodes hn)
    (disconnected := fun w i s hs =>
      Stay.setNode _ w i _ (NStay.setSess _ (s' := { s with disconnected := true }) hs rfl rfl rfl))
    (shutdown := fun w i => st_shutdown w i _) (sessDelete := st_sessDelete _)
    (record := fun w i d hd => st_write _ w i { w.node i with dist := d } (.of_eq rfl hd)) (broadcast := st_broadcast _)
    (register := fun w i s hid _ =>
      Stay.setNode _ w i _ ⟨fun x hx => congrArg _ (sess_append_ne (w.node i) s x (hid ▸ hx)), SubKeep.refl _ _⟩)

theorem st_rawBytes (w : World) (c : String) (b : Wire.Bytes) : Stay ("S" ++ c) w (rawBytes w c b).1 :=
  .of_acts (acts_rawBytes w c b)

/-! ### what `Stay` gives for one bystander -/

theorem stay_session {sid : String} {w w' : World} (hst : Stay sid w w') (i : Nat) (r : Sess)
    (hreg : (w.node i).sess r.id = some r) (hne : r.id ≠ sid) :
    ∃ r', (w'.node i).sess r.id = some r' ∧ r'.conn = r.conn ∧ r'.mount = r.mount ∧ r'.id = r.id := by
  have h := (hst.node i).reg r.id hne
  rw [hreg] at h
  cases hs : (w'.node i).sess r.id with
  | none => rw [hs] at h; cases h
  | some r' =>
    rw [hs] at h
    simp only [Option.map_some, cm, Option.some.injEq, Prod.mk.injEq] at h
    exact ⟨r', rfl, h.1, h.2, (sess_some hs).2⟩

end Wasp.Broker.AgentT11
