import Wasp.Generated.IdPoolLit
import Wasp.Model.IdPool
import Wasp.Proofs.IdPool
import Wasp.Proofs.GoLit
/-! The tie by translation for the packet-identifier pool.

`Wasp.Generated.IdPoolLit.get` / `.put` are the LITERAL renderings of
`(*simpleMidPool).Get` / `.Put` (wasp/idpool.go) produced by extract/imperative.go on every
run: index arithmetic, `sort.Search`, slicing and `append` as written, returning `none`
where the Go code would panic with an index or slice bound out of range.

Here they are proven equal to the hand-written structural model (`Wasp.IdPool.get`,
`Wasp.IdPool.put`, Wasp/Model/IdPool.lean) the property theorems (C06) are stated over:
on a well-formed pool the code as written never panics and computes exactly what the
model computes. A change of the Go source (a comparison, an index, a case) changes the
generated definitions and these proofs stop checking. -/
namespace Wasp.IdPool.Lit
open Wasp.Generated.IdPoolLit

/-- a model interval (from, to) is the Go struct {from, to} -/
def ivLit (iv : Iv) : interval := ⟨iv.1, iv.2⟩

def toLit (p : Pool) : simpleMidPool := ⟨p.min, p.max, p.ivs.map ivLit⟩

/-- Get as written = the model's `get`, for EVERY pool (no invariant is needed: both sides
    only look at the first interval). In particular Get never panics. -/
theorem getLit_eq (p : Pool) :
    Wasp.Generated.IdPoolLit.get (toLit p) = some (toLit (Wasp.IdPool.get p).1, (Wasp.IdPool.get p).2) := by
  obtain ⟨mn, mx, ivs⟩ := p
  cases ivs with
  | nil => simp [Generated.IdPoolLit.get, toLit, IdPool.get, Go.eq, Go.len]
  | cons iv rest =>
    obtain ⟨f, t⟩ := iv
    have h0 : ¬ ((rest.length : Int) + 1 = 0) := by omega
    have h1 : (1 : Int) ≤ (rest.length : Int) + 1 := by omega
    -- `Go.set` keeps the length, so the guards after `from++` hold; `[1:]` is in range on `_ :: rest`
    by_cases h : f + 1 ≥ t <;>
    simp [Generated.IdPoolLit.get, toLit, IdPool.get, ivLit, Go.inRange, Go.index, Go.set, Go.sliceFromOk, Go.sliceFrom, Go.len, Go.eq, Go.ge, h, h0, h1]

theorem sep_lower {hi lo : Int} {l : List Iv} (h : Sep hi lo l) : ∀ x ∈ l, lo ≤ x.1 := by
  induction l generalizing lo with
  | nil => intro x hx; cases hx
  | cons iv rest ih =>
    obtain ⟨f, t⟩ := iv
    simp only [Sep] at h
    intro x hx
    rcases List.mem_cons.1 hx with rfl | hx
    · exact h.1
    · have := ih h.2.2.2 x hx; omega

theorem sep_pairwise {hi lo : Int} {l : List Iv} (h : Sep hi lo l) : l.Pairwise fun x y => x.1 ≤ y.1 := by
  induction l generalizing lo with
  | nil => exact .nil
  | cons iv rest ih =>
    obtain ⟨f, t⟩ := iv
    obtain ⟨_, h2, _, h4⟩ := h
    refine List.pairwise_cons.mpr ⟨fun y hy => ?_, ih h4⟩
    exact Int.le_trans (Int.le_of_lt (Int.lt_trans h2 (Int.lt_succ t))) (sep_lower h4 y hy)

theorem sep_split {hi lo : Int} (mid : Int) {l : List Iv} (h : Sep hi lo l) :
    ∃ pre rest, l = pre ++ rest ∧ (∀ x ∈ pre, x.1 < mid) ∧ (∀ x ∈ rest, mid ≤ x.1) :=
  Go.exists_partition Prod.fst mid (sep_pairwise h)

theorem putIvs_append (mid : Int) (pre : List Iv) (a : Iv) (rest : List Iv)
    (hp : ∀ x ∈ pre, x.1 < mid) (ha : a.1 < mid) :
    putIvs mid (pre ++ a :: rest) = pre ++ putIvs mid (a :: rest) := by
  induction pre with
  | nil => rfl
  | cons p pre' ih =>
    obtain ⟨pf, pt⟩ := p
    -- the walk steps over `p` because the interval behind it starts below `mid` too
    obtain ⟨qf, qt, r, e, hq⟩ : ∃ qf qt r, pre' ++ a :: rest = (qf, qt) :: r ∧ ¬ mid ≤ qf := by
      cases pre' with
      | nil => exact ⟨a.1, a.2, rest, rfl, Int.not_le.mpr ha⟩
      | cons q pre'' =>
        exact ⟨q.1, q.2, pre'' ++ a :: rest, rfl,
          Int.not_le.mpr (hp q (List.mem_cons_of_mem _ List.mem_cons_self))⟩
    rw [List.cons_append, e, putIvs, if_neg (Int.not_le.mpr (hp _ List.mem_cons_self)), if_neg hq, ← e,
      ih fun x hx => hp x (List.mem_cons_of_mem _ hx)]
    rfl

/-- Put as written = the model's `put` on every pool whose interval list is PARTITIONED with
    respect to `mid`: the intervals starting below `mid` come first. This is exactly what
    makes Go's binary search (`sort.Search`) agree with the model's linear walk; nothing
    else of the invariant is used. In particular Put does not panic on such a pool. -/
theorem putLit_eq_of_partition (mn mx : Int) (pre rest : List Iv) (mid : Int)
    (h1 : ∀ x ∈ pre, x.1 < mid) (h2 : ∀ x ∈ rest, mid ≤ x.1) :
    Wasp.Generated.IdPoolLit.put (toLit ⟨mn, mx, pre ++ rest⟩) mid
      = some (toLit (Wasp.IdPool.put ⟨mn, mx, pre ++ rest⟩ mid)) := by
  have hs := Go.search_append (fun x : interval => Go.ge x.from_ mid) (pre.map ivLit) (rest.map ivLit)
    (by intro x hx; obtain ⟨y, hy, rfl⟩ := List.mem_map.1 hx; simpa [ivLit, Go.ge] using h1 y hy)
    (by intro x hx; obtain ⟨y, hy, rfl⟩ := List.mem_map.1 hx; simpa [ivLit, Go.ge] using h2 y hy)
  have hg : Go.forallBelow (Go.len (List.map ivLit (pre ++ rest))) (fun i => Go.inRange (List.map ivLit (pre ++ rest)) i) = true := by
    rw [Go.forallBelow_iff]; intro i h0 hi; rw [Go.inRange_iff]; exact ⟨h0, hi⟩
  rw [← List.map_append] at hs
  show Wasp.Generated.IdPoolLit.put ⟨mn, mx, List.map ivLit (pre ++ rest)⟩ mid = _
  -- `put` is unfolded over variables `L`, `i`: unfolding it over the explicit slice is slow
  generalize hL : List.map ivLit (pre ++ rest) = L at hs hg ⊢
  generalize hi : ((List.map ivLit pre).length : Int) = i at hs
  simp only [Generated.IdPoolLit.put, hg, hs, if_true]
  by_cases hr : mid < mn ∨ mid > mx
  · have hb : (Go.lt mid mn || Go.gt mid mx) = true := by simpa [Go.lt, Go.gt] using hr
    rw [hb, if_pos rfl, ← hL, IdPool.put, if_pos hr]; rfl
  · have hb : (Go.lt mid mn || Go.gt mid mx) = false := by simpa [Go.lt, Go.gt] using hr
    have hm : IdPool.put ⟨mn, mx, pre ++ rest⟩ mid = ⟨mn, mx, putIvs mid (pre ++ rest)⟩ := if_neg hr
    rw [hb, if_neg Bool.false_ne_true, hm]
    show _ = some (⟨mn, mx, List.map ivLit (putIvs mid (pre ++ rest))⟩ : simpleMidPool)
    -- four shapes: `idx > 0` or not, `idx < len` or not; after the `simp only` Go's tests (early return
    -- `to ≥ mid`, extendLeft `to = mid - 1`, extendRight `from = mid`) stand against those of `putIvs`
    rcases List.eq_nil_or_concat pre with rfl | ⟨pre', a, rfl⟩
    · -- `idx = 0`
      have h0 : Go.gt ((List.map ivLit ([] : List Iv)).length : Int) 0 = false := rfl
      subst hi
      cases rest with
      | nil => subst hL; rfl
      | cons b post =>
        obtain ⟨bf, bt⟩ := b
        have eL : L = List.map ivLit [] ++ ivLit (bf, bt) :: List.map ivLit post := hL.symm
        rw [List.nil_append, putIvs_cons_of_le bt post (h2 _ List.mem_cons_self)]
        subst eL
        simp only [h0, Go.lt_len_append_length, Go.inRange_append_length, Go.index_append_length,
          Go.set_append_length, Go.sliceToOk_append_length, Go.sliceFromOk_append_length,
          Go.sliceTo_append_length, Go.sliceFrom_append_length,
          Bool.not_false, Bool.true_or, Bool.false_and, Bool.true_and, Bool.and_self, if_true,
          Bool.not_true, Bool.false_or, Go.eq_iff, ivLit]
        by_cases c : bf = mid -- extendRight
        · rw [if_pos c, if_pos c]; rfl
        · rw [if_neg c, if_neg c]; rfl
    · -- `idx` is the index behind `a`
      obtain ⟨af, at_⟩ := a
      have ha2 : ¬ mid ≤ af := Int.not_le.mpr (h1 (af, at_) (by simp))
      have hp : putIvs mid (pre'.concat (af, at_) ++ rest) = pre' ++ putIvs mid ((af, at_) :: rest) := by
        rw [List.concat_eq_append, List.append_assoc]
        exact putIvs_append mid pre' (af, at_) rest (fun x hx => h1 x (by simp [hx])) (Int.not_le.mp ha2)
      have ei : i = ((List.map ivLit pre').length : Int) + 1 := by
        rw [← hi, List.concat_eq_append, List.map_append, List.length_append]; rfl
      cases rest with
      | nil =>
        have eL : L = List.map ivLit pre' ++ [ivLit (af, at_)] := by
          rw [← hL, List.append_nil, List.concat_eq_append, List.map_append]; rfl
        rw [hp, putIvs, if_neg ha2, List.map_append]
        subst ei eL
        simp only [Int.add_sub_cancel, Go.gt_natCast_succ_zero, Go.inRange_append_length,
          Go.index_append_length, Go.lt_succ_len_append_singleton, Go.set_append_length,
          Go.sliceToOk_append_length_succ, Go.sliceFromOk_append_length_succ,
          Go.sliceTo_append_length_succ, Go.sliceFrom_append_length_succ,
          Bool.not_true, Bool.not_false, Bool.false_or, Bool.true_or, Bool.true_and, Bool.and_false,
          Bool.false_and, Bool.and_self, if_true, Bool.false_eq_true, if_false, Go.ge_iff, Go.eq_iff, ivLit]
        by_cases c1 : mid ≤ at_ -- the early return
        · rw [if_pos c1, if_pos c1]; rfl
        · rw [if_neg c1, if_neg c1]
          by_cases c2 : at_ = mid - 1 -- extendLeft
          · rw [if_pos c2, if_pos c2]; rfl
          · rw [if_neg c2, if_neg c2, List.append_assoc]; rfl
      | cons b post =>
        obtain ⟨bf, bt⟩ := b
        have hb1 : mid ≤ bf := h2 _ List.mem_cons_self
        have eL : L = List.map ivLit pre' ++ ivLit (af, at_) :: ivLit (bf, bt) :: List.map ivLit post := by
          rw [← hL, List.concat_eq_append, List.append_assoc, List.map_append]; rfl
        rw [hp, putIvs, if_neg ha2, if_pos hb1, List.map_append]
        subst ei eL
        simp only [Int.add_sub_cancel, Go.gt_natCast_succ_zero, Go.inRange_append_length,
          Go.index_append_length, Go.lt_succ_len_append_cons, Go.inRange_append_length_succ,
          Go.index_append_length_succ, Go.set_append_length, Go.set_append_length_succ,
          Go.sliceToOk_append_length, Go.sliceFromOk_append_length_succ, Go.sliceTo_append_length,
          Go.sliceFrom_append_length_succ, Go.sliceToOk_append_length_succ, Go.sliceTo_append_length_succ,
          Bool.not_true, Bool.false_or, Bool.true_and, Bool.and_self, if_true,
          Go.ge_iff, Go.eq_iff, Bool.and_eq_true, ivLit]
        by_cases c1 : mid ≤ at_
        · rw [if_pos c1, if_pos c1]; rfl
        · rw [if_neg c1, if_neg c1]
          -- c2 extendLeft, c3 extendRight
          by_cases c2 : at_ = mid - 1 <;> by_cases c3 : bf = mid <;>
            simp only [c2, c3, if_true, if_false, and_self, and_false, false_and, List.map_cons, ivLit,
              List.append_assoc, List.cons_append, List.nil_append]

/-- Put as written = the model's `put`, for every pool satisfying the invariant `Inv`
    (Wasp/Proofs/IdPool.lean). `Inv` is needed, and only through the order of the `from`
    fields it implies (`sep_split`): see `putLit_ne_unsorted` below. -/
theorem putLit_eq (p : Pool) (h : Inv p) (mid : Int) :
    Wasp.Generated.IdPoolLit.put (toLit p) mid = some (toLit (Wasp.IdPool.put p mid)) := by
  obtain ⟨mn, mx, ivs⟩ := p
  obtain ⟨pre, rest, e, h1, h2⟩ := sep_split mid (show Sep mx (mn - 1) ivs from h)
  subst e
  exact putLit_eq_of_partition mn mx pre rest mid h1 h2

/-- the hypothesis of `putLit_eq` cannot be dropped: on an unsorted interval list the binary
    search of the code and the linear walk of the model part ways -/
theorem putLit_ne_unsorted :
    Wasp.Generated.IdPoolLit.put (toLit ⟨1, 9, [(5, 6), (1, 2)]⟩) 3
      ≠ some (toLit (Wasp.IdPool.put ⟨1, 9, [(5, 6), (1, 2)]⟩ 3)) := by
  decide +kernel

/-- one operation of a trace on the code as written (`none` = a panic) -/
def stepLit (m : simpleMidPool) : Op → Option (simpleMidPool × Option Int)
  | .get => (Wasp.Generated.IdPoolLit.get m).map fun r => (r.1, some r.2)
  | .put x => (Wasp.Generated.IdPoolLit.put m x).map fun m' => (m', none)

/-- a whole trace on the code as written -/
def runLit (m : simpleMidPool) : List Op → Option (simpleMidPool × List (Option Int))
  | [] => some (m, [])
  | op :: ops => (stepLit m op).bind fun r => (runLit r.1 ops).map fun r' => (r'.1, r.2 :: r'.2)

/-- from a well-formed pool, no sequence of Get/Put on the code as written ever panics, and
    it yields the states and outputs of the model's `run` (over which C06 is stated) -/
theorem runLit_eq (p : Pool) (h : Inv p) (ops : List Op) :
    runLit (toLit p) ops = some (toLit (run p ops).1, (run p ops).2) := by
  induction ops generalizing p with
  | nil => rfl
  | cons op ops ih =>
    cases op with
    | get =>
      simp only [runLit, stepLit, getLit_eq, Option.map_some, Option.bind_some, run, step,
        ih _ (inv_get p h)]
    | put x =>
      simp only [runLit, stepLit, putLit_eq p h, Option.map_some, Option.bind_some, run, step,
        ih _ (put_spec p h x).1]

end Wasp.IdPool.Lit
