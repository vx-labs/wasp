import Wasp.Model.IdPool
/-! Helper lemmas for the identifier pool: free-set semantics and the
    structural invariant of the interval list. -/
namespace Wasp.IdPool

/-- `x` is free in the interval list: it lies in some (from, to] -/
def freeIn : List Iv → Int → Prop
  | [], _ => False
  | (f, t) :: rest, x => (f < x ∧ x ≤ t) ∨ freeIn rest x

instance : (l : List Iv) → (x : Int) → Decidable (freeIn l x)
  | [], _ => isFalse (by simp [freeIn])
  | (f, t) :: rest, x =>
    have : Decidable (freeIn rest x) := instDecidableFreeIn rest x
    by unfold freeIn; exact inferInstance

/-- every interval is non-empty and lies in (lo, hi]; the list is sorted and
    consecutive intervals are strictly separated (never touching) -/
def Sep (hi : Int) : Int → List Iv → Prop
  | _, [] => True
  | lo, (f, t) :: rest => lo ≤ f ∧ f < t ∧ t ≤ hi ∧ Sep hi (t + 1) rest

theorem freeIn_bounds {hi lo : Int} {l : List Iv} (h : Sep hi lo l) {x : Int} (hx : freeIn l x) :
    lo < x ∧ x ≤ hi := by
  induction l generalizing lo with
  | nil => exact hx.elim
  | cons iv rest ih =>
    obtain ⟨f, t⟩ := iv
    obtain ⟨h1, h2, h3, h4⟩ := h
    rcases hx with hx | hx
    · exact ⟨Int.lt_of_le_of_lt h1 hx.1, Int.le_trans hx.2 h3⟩
    · have := ih h4 hx
      exact ⟨Int.lt_of_le_of_lt h1 (Int.lt_trans h2 (Int.lt_trans (Int.lt_succ t) this.1)), this.2⟩

theorem Sep.mono {hi lo lo' : Int} {l : List Iv} (h : Sep hi lo l) (hlo : lo' ≤ lo) : Sep hi lo' l := by
  cases l with
  | nil => trivial
  | cons iv rest => exact ⟨Int.le_trans hlo h.1, h.2⟩

theorem putIvs_cons_of_le {mid f : Int} (t : Int) (rest : List Iv) (h : mid ≤ f) :
    putIvs mid ((f, t) :: rest) =
      if f = mid then (f - 1, t) :: rest else (mid - 1, mid) :: (f, t) :: rest := by
  cases rest with
  | nil => rw [putIvs, if_pos h]
  | cons iv rest => rw [putIvs, if_pos h]

theorem putIvs_cons_of_lt {mid f t : Int} (rest : List Iv) (hf : f < mid) (ht : t + 1 < mid) :
    putIvs mid ((f, t) :: rest) = (f, t) :: putIvs mid rest := by
  have h1 : ¬ mid ≤ f := Int.not_le.mpr hf
  have h2 : ¬ mid ≤ t := Int.not_le.mpr (Int.lt_trans (Int.lt_succ t) ht)
  have h3 : ¬ t = mid - 1 := fun e => Int.lt_irrefl mid (by rw [e, Int.sub_add_cancel] at ht; exact ht)
  cases rest with
  | nil => simp only [putIvs, if_neg h1, if_neg h2, if_neg h3]
  | cons iv rest =>
    obtain ⟨f2, t2⟩ := iv
    rw [putIvs, if_neg h1, if_neg h2, if_neg h3]
    by_cases h4 : mid ≤ f2
    · rw [if_pos h4, putIvs_cons_of_le _ _ h4]
      by_cases h5 : f2 = mid
      · rw [if_pos h5, if_pos h5]
      · rw [if_neg h5, if_neg h5]
    · rw [if_neg h4]

theorem ioc_pred {f t x : Int} (h : f ≤ t) : f - 1 < x ∧ x ≤ t ↔ (f < x ∧ x ≤ t) ∨ x = f := by
  omega

theorem ioc_succ {f t x : Int} (h : f ≤ t) : f < x ∧ x ≤ t + 1 ↔ (f < x ∧ x ≤ t) ∨ x = t + 1 := by
  omega

theorem ioc_join {f t t2 x : Int} (h : f ≤ t) (h2 : t + 1 ≤ t2) :
    f < x ∧ x ≤ t2 ↔ ((f < x ∧ x ≤ t) ∨ (t + 1 < x ∧ x ≤ t2)) ∨ x = t + 1 := by
  omega

theorem ioc_point {m x : Int} : m - 1 < x ∧ x ≤ m ↔ x = m :=
  ⟨fun h => Int.le_antisymm h.2 (Int.sub_one_lt_iff.mp h.1),
   fun e => e ▸ ⟨Int.sub_one_lt_iff.mpr (Int.le_refl _), Int.le_refl _⟩⟩

theorem ioc_absorb {f t m x : Int} (h : f < m) (h2 : m ≤ t) :
    f < x ∧ x ≤ t ↔ (f < x ∧ x ≤ t) ∨ x = m :=
  ⟨.inl, fun h' => h'.elim id fun e => e ▸ ⟨h, h2⟩⟩

/-- `r`: the free set of the common tail of the two interval lists -/
theorem or_tail {a' a r e : Prop} (h : a' ↔ a ∨ e) : a' ∨ r ↔ (a ∨ r) ∨ e := by
  rw [h, or_right_comm]

theorem putIvs_spec (hi : Int) (mid : Int) (l : List Iv) (lo : Int)
    (hs : Sep hi lo l) (hlo : lo < mid) (hhi : mid ≤ hi) :
    Sep hi lo (putIvs mid l) ∧ ∀ x, freeIn (putIvs mid l) x ↔ (freeIn l x ∨ x = mid) := by
  -- `mid` against the first interval `(f, t]`, with Go's Put: `mid < f` insert in front; `mid = f` extendRight;
  -- `t + 1 < mid` step over, by induction; `mid = t + 1` extendLeft, or both (merge) when the next interval
  -- starts at `mid`; `mid ≤ t` the early return.
  induction l generalizing lo with
  | nil =>
    refine ⟨⟨Int.le_sub_one_of_lt hlo, Int.sub_one_lt_iff.mpr (Int.le_refl _), hhi, trivial⟩, fun x => ?_⟩
    simp only [putIvs, freeIn, ioc_point, or_comm]
  | cons iv rest ih =>
    obtain ⟨f, t⟩ := iv
    obtain ⟨h1, h2, h3, h4⟩ := hs
    rcases Int.lt_trichotomy mid f with hf | rfl | hf
    · rw [putIvs_cons_of_le t rest (Int.le_of_lt hf), if_neg (Int.ne_of_gt hf)]
      refine ⟨⟨Int.le_sub_one_of_lt hlo, Int.sub_one_lt_iff.mpr (Int.le_refl _), hhi, hf, h2, h3, h4⟩,
        fun x => ?_⟩
      simp only [freeIn, ioc_point]
      rw [or_comm]
    · rw [putIvs_cons_of_le t rest (Int.le_refl _), if_pos rfl]
      refine ⟨⟨Int.le_sub_one_of_lt hlo, Int.sub_one_lt_iff.mpr (Int.le_of_lt h2), h3, h4⟩, fun x => ?_⟩
      exact or_tail (ioc_pred (Int.le_of_lt h2))
    · have hf' : ¬ mid ≤ f := Int.not_le.mpr hf
      rcases Int.lt_trichotomy (t + 1) mid with ht | rfl | ht
      · rw [putIvs_cons_of_lt rest hf ht]
        have ⟨i1, i2⟩ := ih (t + 1) h4 ht
        refine ⟨⟨h1, h2, h3, i1⟩, fun x => ?_⟩
        simp only [freeIn, i2 x, or_assoc]
      · have ht' : ¬ t + 1 ≤ t := Int.not_le.mpr (Int.lt_succ t)
        have hft : f < t + 1 := Int.lt_trans h2 (Int.lt_succ t)
        cases rest with
        | nil =>
          rw [putIvs, if_neg hf', if_neg ht', if_pos (Int.add_sub_cancel t 1).symm]
          exact ⟨⟨h1, hft, hhi, trivial⟩, fun x => or_tail (ioc_succ (Int.le_of_lt h2))⟩
        | cons iv2 rest2 =>
          obtain ⟨f2, t2⟩ := iv2
          obtain ⟨g1, g2, g3, g4⟩ := h4
          rw [putIvs, if_neg hf', if_pos g1, if_neg ht', if_pos (Int.add_sub_cancel t 1).symm]
          rcases Int.lt_or_eq_of_le g1 with g1 | rfl
          · rw [if_neg (Int.ne_of_gt g1)]
            exact ⟨⟨h1, hft, hhi, g1, g2, g3, g4⟩, fun x => or_tail (ioc_succ (Int.le_of_lt h2))⟩
          · rw [if_pos rfl]
            refine ⟨⟨h1, Int.lt_trans hft g2, g3, g4⟩, fun x => ?_⟩
            simp only [freeIn, ← or_assoc]
            exact or_tail (ioc_join (Int.le_of_lt h2) (Int.le_of_lt g2))
      · have ht : mid ≤ t := Int.lt_add_one_iff.mp ht
        have hsame : putIvs mid ((f, t) :: rest) = (f, t) :: rest := by
          cases rest with
          | nil => rw [putIvs, if_neg hf', if_pos ht]
          | cons iv2 rest2 =>
            rw [putIvs, if_neg hf', if_pos (Int.le_trans ht (Int.le_trans (Int.le_of_lt (Int.lt_succ t)) h4.1)),
              if_pos ht]
        rw [hsame]
        exact ⟨⟨h1, h2, h3, h4⟩, fun x => or_tail (ioc_absorb hf ht)⟩

def Inv (p : Pool) : Prop := Sep p.max (p.min - 1) p.ivs

def Pool.free (p : Pool) (x : Int) : Prop := freeIn p.ivs x

theorem new_inv (min max : Int) (h : min ≤ max) : Inv (new min max) :=
  ⟨Int.le_refl _, Int.sub_one_lt_of_le h, Int.le_refl _, trivial⟩

theorem new_free (min max x : Int) : (new min max).free x ↔ (min ≤ x ∧ x ≤ max) := by
  simp only [Pool.free, new, freeIn, or_false, Int.sub_one_lt_iff]

theorem get_min_max (p : Pool) : (get p).1.min = p.min ∧ (get p).1.max = p.max := by
  unfold get; split
  · simp
  · split <;> simp

theorem put_min_max (p : Pool) (m : Int) : (put p m).min = p.min ∧ (put p m).max = p.max := by
  unfold put; split <;> simp

/-- Get on a non-empty pool: the result is free, in range, and exactly it stops being free -/
theorem get_spec (p : Pool) (h : Inv p) (hne : p.ivs ≠ []) :
    Inv (get p).1 ∧ p.free (get p).2 ∧ p.min ≤ (get p).2 ∧ (get p).2 ≤ p.max ∧
    ∀ x, (get p).1.free x ↔ (p.free x ∧ x ≠ (get p).2) := by
  obtain ⟨mn, mx, ivs⟩ := p
  cases ivs with
  | nil => exact absurd rfl hne
  | cons iv rest =>
    obtain ⟨f, t⟩ := iv
    obtain ⟨h1, h2, h3, h4⟩ := h
    -- the identifiers free in the other intervals lie above `t`
    have hr : ∀ x, freeIn rest x → x ≠ f + 1 := fun x hx e =>
      Int.lt_irrefl x (Int.lt_of_le_of_lt (e ▸ h2) (Int.lt_trans (Int.lt_succ t) (freeIn_bounds h4 hx).1))
    have hmin : mn ≤ f + 1 := Int.le_add_of_sub_right_le h1
    by_cases hft : f + 1 ≥ t
    · simp only [get, if_pos hft, Inv, Pool.free]
      refine ⟨h4.mono (Int.le_trans h1 (Int.le_trans (Int.le_of_lt h2) (Int.le_of_lt (Int.lt_succ t)))),
        .inl ⟨Int.lt_succ f, h2⟩, hmin, Int.le_trans h2 h3, fun x => ⟨fun hx => ⟨.inr hx, hr x hx⟩, ?_⟩⟩
      rintro ⟨⟨a, b⟩ | hx, hne⟩
      · exact absurd (Int.le_antisymm (Int.le_trans b hft) a) hne
      · exact hx
    · simp only [get, if_neg hft, Inv, Pool.free]
      refine ⟨⟨Int.le_trans h1 (Int.le_of_lt (Int.lt_succ f)), Int.not_le.mp hft, h3, h4⟩,
        .inl ⟨Int.lt_succ f, h2⟩, hmin, Int.le_trans h2 h3, fun x => ⟨?_, ?_⟩⟩
      · rintro (⟨a, b⟩ | hx)
        · exact ⟨.inl ⟨Int.lt_trans (Int.lt_succ f) a, b⟩, Int.ne_of_gt a⟩
        · exact ⟨.inr hx, hr x hx⟩
      · rintro ⟨⟨a, b⟩ | hx, hne⟩
        · exact .inl ⟨Int.lt_iff_le_and_ne.mpr ⟨a, Ne.symm hne⟩, b⟩
        · exact .inr hx

theorem get_empty (p : Pool) (h : p.ivs = []) : get p = (p, -1) := by
  unfold get; rw [h]

theorem inv_get (p : Pool) (h : Inv p) : Inv (get p).1 := by
  by_cases hne : p.ivs = []
  · rw [get_empty p hne]; exact h
  · exact (get_spec p h hne).1

theorem free_of_ne_nil (p : Pool) (h : Inv p) (hne : p.ivs ≠ []) : ∃ x, p.free x := by
  obtain ⟨mn, mx, ivs⟩ := p
  cases ivs with
  | nil => exact absurd rfl hne
  | cons iv rest =>
    obtain ⟨f, t⟩ := iv
    exact ⟨t, .inl ⟨h.2.1, Int.le_refl t⟩⟩

/-- Put: keeps the invariant; frees `mid` when it is in range, nothing else changes -/
theorem put_spec (p : Pool) (h : Inv p) (mid : Int) :
    Inv (put p mid) ∧
    ∀ x, (put p mid).free x ↔ (p.free x ∨ (x = mid ∧ p.min ≤ mid ∧ mid ≤ p.max)) := by
  unfold put
  by_cases hr : mid < p.min ∨ mid > p.max
  · rw [if_pos hr]
    refine ⟨h, fun x => ⟨.inl, fun hx => hx.elim id fun ⟨_, h1, h2⟩ => ?_⟩⟩
    exact hr.elim (fun a => absurd h1 (Int.not_le.mpr a)) (fun a => absurd h2 (Int.not_le.mpr a))
  · rw [if_neg hr]
    have hmin : p.min ≤ mid := Int.not_lt.mp (fun a => hr (.inl a))
    have hmax : mid ≤ p.max := Int.not_lt.mp (fun a => hr (.inr a))
    have := putIvs_spec p.max mid p.ivs (p.min - 1) h (Int.sub_one_lt_iff.mpr hmin) hmax
    exact ⟨this.1, fun x => (this.2 x).trans (or_congr_right (and_iff_left ⟨hmin, hmax⟩).symm)⟩

theorem free_in_range (p : Pool) (h : Inv p) {x : Int} (hx : p.free x) : p.min ≤ x ∧ x ≤ p.max :=
  ⟨Int.sub_one_lt_iff.mp (freeIn_bounds h hx).1, (freeIn_bounds h hx).2⟩

end Wasp.IdPool
