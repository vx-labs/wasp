import Wasp.Model.BrokerOps
import Wasp.Proofs.BrokerT5
import Wasp.Proofs.BrokerT19
import Wasp.Proofs.BrokerRel
import Wasp.Proofs.DistSync
/-!
For Wasp/Properties/C11Reach.lean: an invariant `RI` of every reachable world about the SESSION records of the replicated
stores (stamps below the crdt clock, unique ids per store, and: the newest incarnation of a registered session's id is
the one its CONNECT created), carried by `J = GI ∧ RI` through `applyOp`.

`XStep w w'`: what every function of the model except the record-creating part of CONNECT does to registries, session
stores and pending gossip; it is a preorder and preserves the invariant `RI`.
-/
namespace Wasp.Broker
open Wasp.Dist Wasp.Broker.AgentD

theorem distWrite_oob (w : World) (i : Nat) (hi : ¬ i < w.nodes.length) (n : Node) (ev : Event) :
    (w.setNode i n).broadcast i ev = w := by
  rw [AgentC.setNode_ge _ _ _ (by omega)]
  unfold World.broadcast
  exact AgentC.setNode_ge _ _ _ (by omega)

end Wasp.Broker

namespace Wasp.Broker.AgentT20
open Wasp.Broker Wasp.Dist Wasp.Crdt Wasp.Topic Wasp.Broker.AgentD Wasp.Broker.AgentT5

/-- what identifies a registered session -/
def skey (s : Sess) : String × String × String × String := (s.id, s.conn, s.client, s.mount)
/-- what identifies an incarnation of a session record (everything a later tombstone keeps) -/
def rkey (r : SessionMD) : String × Int × String × String := (r.id, r.added, r.client, r.mount)

theorem rkey_inj {r r' : SessionMD} (h : rkey r = rkey r') :
    r.id = r'.id ∧ r.added = r'.added ∧ r.client = r'.client ∧ r.mount = r'.mount := by
  simpa only [rkey, Prod.mk.injEq] using h

/-- `r` is a session record of the cluster: stored on some node, or in gossip not yet delivered -/
def RecIn (w : World) (r : SessionMD) : Prop :=
  ∃ j, r ∈ (w.node j).dist.sessions ∨ ∃ e ∈ (w.node j).pending, r ∈ e.2.sessions

/-- last update of a record -/
def lu (r : SessionMD) : Int := if r.added > r.deleted then r.added else r.deleted

theorem lu_eq (r : SessionMD) : lastUpdate r.stamp = lu r := by
  simp [lastUpdate, Generated.getLastEntryUpdate, lu, SessionMD.stamp, Go.isNil, Go.getLastAdded, Go.getLastDeleted]

theorem outdated_iff (a b : SessionMD) : isOutdated a.stamp b.stamp = true ↔ lu a < lu b := by
  show decide (lastUpdate a.stamp < lastUpdate b.stamp) = true ↔ _
  rw [lu_eq, lu_eq]; simp

/-- node j of the successor world, relative to `w` -/
structure NStep (w : World) (j : Nat) (n' : Node) : Prop where
  reg : ∀ s' ∈ n'.reg, ∃ s ∈ (w.node j).reg, skey s = skey s'
  stored : ∀ r' ∈ n'.dist.sessions, ∃ r, RecIn w r ∧ rkey r = rkey r'
  pend : ∀ e ∈ n'.pending, ∀ r' ∈ e.2.sessions, ∃ r, RecIn w r ∧ rkey r = rkey r'
  nodup : ((w.node j).dist.sessions.map (·.id)).Nodup → (n'.dist.sessions.map (·.id)).Nodup
  mono : ∀ id loc, sessLookup id (w.node j).dist.sessions = some loc →
    ∃ loc', sessLookup id n'.dist.sessions = some loc' ∧ (lu loc ≤ lu loc' ∨ w.clock - 1 ≤ lu loc')

structure XStep (w w' : World) : Prop where
  clock : w.clock ≤ w'.clock
  node : ∀ j, NStep w j (w'.node j)

theorem NStep.same (w : World) (j : Nat) (n' : Node) (hr : ∀ s' ∈ n'.reg, ∃ s ∈ (w.node j).reg, skey s = skey s')
    (hd : n'.dist.sessions = (w.node j).dist.sessions) (hp : ∀ e ∈ n'.pending, e ∈ (w.node j).pending) : NStep w j n' := by
  refine ⟨hr, fun r' h => ⟨r', ⟨j, Or.inl (hd ▸ h)⟩, rfl⟩, fun e he r' h => ⟨r', ⟨j, Or.inr ⟨e, hp e he, h⟩⟩, rfl⟩,
    fun h => hd ▸ h, fun id loc h => ⟨loc, hd ▸ h, Or.inl (Int.le_refl _)⟩⟩

theorem NStep.refl (w : World) (j : Nat) : NStep w j (w.node j) :=
  NStep.same w j _ (fun s' h => ⟨s', h, rfl⟩) rfl (fun _ h => h)

theorem XStep.refl (w : World) : XStep w w := ⟨Int.le_refl _, fun j => NStep.refl w j⟩

theorem XStep.recs {w w' : World} (h : XStep w w') {r' : SessionMD} (hr : RecIn w' r') : ∃ r, RecIn w r ∧ rkey r = rkey r' := by
  obtain ⟨j, hj | ⟨e, he, hre⟩⟩ := hr
  · exact (h.node j).stored r' hj
  · exact (h.node j).pend e he r' hre

theorem XStep.trans {a b c : World} (h1 : XStep a b) (h2 : XStep b c) : XStep a c := by
  refine ⟨Int.le_trans h1.clock h2.clock, fun j => ⟨?_, ?_, ?_, ?_, ?_⟩⟩
  · intro s' hs'
    obtain ⟨s1, hs1, e1⟩ := (h2.node j).reg s' hs'
    obtain ⟨s0, hs0, e0⟩ := (h1.node j).reg s1 hs1
    exact ⟨s0, hs0, e0.trans e1⟩
  · intro r' hr'
    obtain ⟨r1, hr1, e1⟩ := (h2.node j).stored r' hr'
    obtain ⟨r0, hr0, e0⟩ := h1.recs hr1
    exact ⟨r0, hr0, e0.trans e1⟩
  · intro e he r' hr'
    obtain ⟨r1, hr1, e1⟩ := (h2.node j).pend e he r' hr'
    obtain ⟨r0, hr0, e0⟩ := h1.recs hr1
    exact ⟨r0, hr0, e0.trans e1⟩
  · intro h; exact (h2.node j).nodup ((h1.node j).nodup h)
  · intro id loc hl
    obtain ⟨l1, hl1, m1⟩ := (h1.node j).mono id loc hl
    obtain ⟨l2, hl2, m2⟩ := (h2.node j).mono id l1 hl1
    refine ⟨l2, hl2, ?_⟩
    have := h1.clock
    omega

theorem XStep.of_nodes_eq {w w' : World} (h : w'.nodes = w.nodes)
    (hc : w.clock ≤ w'.clock := by first | exact Int.le_refl _ | exact Int.le_add_one (Int.le_refl _)) : XStep w w' :=
  ⟨hc, fun j => by rw [node_congr h]; exact NStep.refl w j⟩

theorem XStep.setNode (w : World) (i : Nat) (n' : Node) (h : NStep w i n') : XStep w (w.setNode i n') := by
  refine ⟨Int.le_refl _, fun j => ?_⟩
  rw [node_setNode]
  split
  · rename_i hji; rw [hji.1]; exact h
  · exact NStep.refl w j

theorem x_setNode_same (w : World) (i : Nat) (n' : Node) (hr : n'.reg = (w.node i).reg := by rfl)
    (hd : n'.dist.sessions = (w.node i).dist.sessions := by rfl) (hp : n'.pending = (w.node i).pending := by rfl) :
    XStep w (w.setNode i n') :=
  XStep.setNode w i n' (NStep.same w i n' (fun s' hs' => ⟨s', hr ▸ hs', rfl⟩) hd (fun _ he => hp ▸ he))

theorem x_emit (w : World) (c : String) (p : Pkt) : XStep w (w.emit c p) := XStep.of_nodes_eq rfl

theorem x_tick (w : World) : XStep w w.tick.1 := XStep.of_nodes_eq rfl

/-! ### writes of the replicated state -/

theorem x_setDist (w : World) (i : Nat) (d : State) (hd : d.sessions = (w.node i).dist.sessions := by rfl) :
    XStep w (w.setNode i { w.node i with dist := d }) :=
  x_setNode_same w i _ rfl hd rfl

theorem x_broadcast (w : World) (i : Nat) (ev : Event)
    (he : ∀ r' ∈ ev.sessions, ∃ r, RecIn w r ∧ rkey r = rkey r' := by exact fun _ h => (List.not_mem_nil h).elim) :
    XStep w (w.broadcast i ev) := by
  unfold World.broadcast
  refine XStep.setNode w i _ ⟨fun s' hs' => ⟨s', hs', rfl⟩, fun r' h => ⟨r', ⟨i, Or.inl h⟩, rfl⟩, ?_, fun h => h,
    fun id loc h => ⟨loc, h, Or.inl (Int.le_refl _)⟩⟩
  intro e hm r' hr'
  rcases List.mem_append.mp hm with hm | hm
  · exact ⟨r', ⟨i, Or.inr ⟨e, hm, hr'⟩⟩, rfl⟩
  · obtain ⟨j, _, rfl⟩ := List.mem_map.mp hm
    exact he r' hr'

theorem x_setSess (w : World) (i : Nat) {sid : String} {s : Sess} (s' : Sess) (hs : (w.node i).sess sid = some s)
    (hc : skey s' = skey s := by rfl) : XStep w (w.setNode i ((w.node i).setSess s')) := by
  refine XStep.setNode w i _ (NStep.same w i _ ?_ rfl (fun _ h => h))
  intro x' hx'
  rcases mem_setSess hx' with rfl | hx
  · exact ⟨s, (sess_some hs).1, hc.symm⟩
  · exact ⟨x', hx, rfl⟩

/-! ### session stores -/

def SStep (c : Int) (src : SessionMD → Prop) (l l' : List SessionMD) : Prop :=
  (∀ r' ∈ l', ∃ r, (r ∈ l ∨ src r) ∧ rkey r = rkey r') ∧ ((l.map (·.id)).Nodup → (l'.map (·.id)).Nodup) ∧
  (∀ id loc, sessLookup id l = some loc → ∃ loc', sessLookup id l' = some loc' ∧ (lu loc ≤ lu loc' ∨ c ≤ lu loc'))

theorem SStep.refl (c : Int) (src : SessionMD → Prop) (l : List SessionMD) : SStep c src l l :=
  ⟨fun r' h => ⟨r', Or.inl h, rfl⟩, fun h => h, fun _ loc h => ⟨loc, h, Or.inl (Int.le_refl _)⟩⟩

theorem SStep.trans {c : Int} {src : SessionMD → Prop} {l₁ l₂ l₃ : List SessionMD} (h1 : SStep c src l₁ l₂)
    (h2 : SStep c src l₂ l₃) : SStep c src l₁ l₃ := by
  refine ⟨fun r' hr' => ?_, fun h => h2.2.1 (h1.2.1 h), fun id loc hl => ?_⟩
  · obtain ⟨r1, hr1 | hr1, e1⟩ := h2.1 r' hr'
    · obtain ⟨r0, hr0, e0⟩ := h1.1 r1 hr1
      exact ⟨r0, hr0, e0.trans e1⟩
    · exact ⟨r1, Or.inr hr1, e1⟩
  · obtain ⟨a, ha, m1⟩ := h1.2.2 id loc hl
    obtain ⟨b, hb, m2⟩ := h2.2.2 id a ha
    exact ⟨b, hb, by omega⟩

theorem SStep.set {c : Int} {src : SessionMD → Prop} (x : SessionMD) (l : List SessionMD)
    (hx : ∃ r, (r ∈ l ∨ src r) ∧ rkey r = rkey x)
    (hm : ∀ loc, sessLookup x.id l = some loc → lu loc ≤ lu x ∨ c ≤ lu x) : SStep c src l (sessSet x l) := by
  refine ⟨fun r' hr' => ?_, sessSet_nodup x l, fun id loc hl => ?_⟩
  · rcases sessSet_mem hr' with rfl | h
    · exact hx
    · exact ⟨r', Or.inl h, rfl⟩
  · rw [sessLookup_sessSet]
    split
    · rename_i e; subst e; exact ⟨x, rfl, hm loc hl⟩
    · exact ⟨loc, hl, Or.inl (Int.le_refl _)⟩

theorem sstep_foldl_set {c : Int} {src : SessionMD → Prop} (vs : List SessionMD) : ∀ (l0 l : List SessionMD),
    SStep c src l0 l → (∀ v ∈ vs, (∃ r, (r ∈ l0 ∨ src r) ∧ rkey r = rkey v) ∧ c ≤ lu v) →
    SStep c src l0 (vs.foldl (fun acc s => sessSet s acc) l) := by
  induction vs with
  | nil => intro l0 l h _; exact h
  | cons v rest ih =>
    intro l0 l h hv
    simp only [List.foldl_cons]
    refine ih l0 _ ?_ (fun u hu => hv u (List.mem_cons_of_mem _ hu))
    obtain ⟨⟨r, hr, e⟩, hc⟩ := hv v List.mem_cons_self
    refine ⟨fun r' hr' => ?_, fun hn => sessSet_nodup v l (h.2.1 hn), fun id loc hl => ?_⟩
    · rcases sessSet_mem hr' with rfl | hm
      · exact ⟨r, hr, e⟩
      · exact h.1 r' hm
    · obtain ⟨a, ha, m⟩ := h.2.2 id loc hl
      rw [sessLookup_sessSet]
      split
      · exact ⟨v, rfl, Or.inr hc⟩
      · exact ⟨a, ha, m⟩

theorem lu_deleted (s : SessionMD) (now : Int) : now ≤ lu { s with deleted := now } := by
  unfold lu; simp only; split <;> omega

theorem rkey_deleted (s : SessionMD) (now : Int) : rkey s = rkey { s with deleted := now } := rfl

theorem sstep_sessDelete (src : SessionMD → Prop) (st : State) (now : Int) (id : String) :
    SStep now src st.sessions (Wasp.Dist.sessDelete st now id).1.sessions ∧
    ∀ e, (Wasp.Dist.sessDelete st now id).2 = some e → ∀ r' ∈ e.sessions, ∃ r ∈ st.sessions, rkey r = rkey r' := by
  unfold Wasp.Dist.sessDelete
  split
  · exact ⟨SStep.refl _ _ _, fun e he => by cases he⟩
  · rename_i s hs
    split
    · exact ⟨SStep.refl _ _ _, fun e he => by cases he⟩
    · refine ⟨SStep.set _ _ ⟨s, Or.inl (sessLookup_mem hs), rkey_deleted s now⟩ (fun _ _ => Or.inr (lu_deleted s now)), ?_⟩
      intro e he r' hr'
      simp only [Option.some.injEq] at he
      subst he
      simp only [List.mem_singleton] at hr'
      subst hr'
      exact ⟨s, sessLookup_mem hs, rkey_deleted s now⟩

theorem sstep_sessDeletePeer (src : SessionMD → Prop) (st : State) (now : Int) (p : Nat) :
    SStep now src st.sessions (sessDeletePeer st now p).1.sessions ∧
    ∀ r' ∈ (sessDeletePeer st now p).2.sessions, ∃ r ∈ st.sessions, rkey r = rkey r' := by
  have hv : ∀ v ∈ (sessByPeer st p).map (fun s => { s with deleted := now }),
      (∃ r ∈ st.sessions, rkey r = rkey v) ∧ now ≤ lu v := by
    intro v hv
    obtain ⟨s, hs, rfl⟩ := List.mem_map.mp hv
    have hm : s ∈ st.sessions := (List.mem_filter.mp hs).1
    exact ⟨⟨s, hm, rkey_deleted s now⟩, lu_deleted s now⟩
  refine ⟨?_, fun r' hr' => (hv r' hr').1⟩
  unfold sessDeletePeer
  simp only
  refine sstep_foldl_set _ _ _ (SStep.refl _ _ _) (fun v hvm => ?_)
  obtain ⟨⟨r, hr, e⟩, hc⟩ := hv v hvm
  exact ⟨⟨r, Or.inl hr, e⟩, hc⟩

theorem sstep_mergeSessions (c : Int) (src : SessionMD → Prop) (vs : List SessionMD) (hs : ∀ v ∈ vs, src v) :
    ∀ l, SStep c src l (mergeSessions vs l) := by
  induction vs with
  | nil => intro l; exact SStep.refl _ _ _
  | cons v rest ih =>
    intro l
    unfold mergeSessions
    split
    · exact SStep.refl _ _ _
    · have hrest := ih (fun u hu => hs u (List.mem_cons_of_mem _ hu))
      simp only
      cases hlk : sessLookup v.id l with
      | none =>
        simp only [if_true]
        exact SStep.trans (SStep.set v l ⟨v, Or.inr (hs v List.mem_cons_self), rfl⟩
          (fun loc hl => by rw [hlk] at hl; cases hl)) (hrest _)
      | some loc =>
        simp only
        by_cases ho : isOutdated loc.stamp v.stamp = true
        · simp only [ho, if_true]
          refine SStep.trans (SStep.set v l ⟨v, Or.inr (hs v List.mem_cons_self), rfl⟩ ?_) (hrest _)
          intro loc' hl
          rw [hlk] at hl
          cases hl
          exact Or.inl (Int.le_of_lt ((outdated_iff loc v).mp ho))
        · simp only [ho]
          exact hrest _

theorem sstep_merge (c : Int) (src : SessionMD → Prop) (d : State) (ev : Event) (hs : ∀ v ∈ ev.sessions, src v) :
    SStep c src d.sessions (merge d ev).sessions := sstep_mergeSessions c src _ hs _

theorem sstep_foldl_merge (c : Int) (src : SessionMD → Prop) (evs : List Event) (hs : ∀ ev ∈ evs, ∀ v ∈ ev.sessions, src v) :
    ∀ d : State, SStep c src d.sessions (evs.foldl merge d).sessions := by
  induction evs with
  | nil => intro d; exact SStep.refl _ _ _
  | cons ev rest ih =>
    intro d
    simp only [List.foldl_cons]
    exact (sstep_merge c src d ev (hs ev List.mem_cons_self)).trans (ih (fun e he => hs e (List.mem_cons_of_mem _ he)) _)

theorem nstep_store (w : World) (i : Nat) (n' : Node) (hr : n'.reg = (w.node i).reg)
    (h : SStep (w.clock - 1) (RecIn w) (w.node i).dist.sessions n'.dist.sessions)
    (hp : ∀ e ∈ n'.pending, ∀ r' ∈ e.2.sessions, ∃ r, RecIn w r ∧ rkey r = rkey r') : NStep w i n' := by
  refine ⟨fun s' hs' => ⟨s', hr ▸ hs', rfl⟩, fun r' hr' => ?_, hp, h.2.1, h.2.2⟩
  obtain ⟨r, hr | hr, e⟩ := h.1 r' hr'
  · exact ⟨r, ⟨i, Or.inl hr⟩, e⟩
  · exact ⟨r, hr, e⟩

theorem x_setStore (w : World) (i : Nat) (d : State)
    (h : SStep (w.clock - 1) (RecIn w) (w.node i).dist.sessions d.sessions) :
    XStep w (w.setNode i { w.node i with dist := d }) :=
  XStep.setNode w i _ (nstep_store w i _ rfl h (fun e he r' hr' => ⟨r', ⟨i, Or.inr ⟨e, he, hr'⟩⟩, rfl⟩))

/-- node i replaces its session store and queues records of the old store (possibly with a later tombstone) -/
theorem x_writeCast (w : World) (i : Nat) (d : State) (ev : Event)
    (h : SStep (w.clock - 1) (RecIn w) (w.node i).dist.sessions d.sessions)
    (hev : ∀ r' ∈ ev.sessions, ∃ r ∈ (w.node i).dist.sessions, rkey r = rkey r') :
    XStep w ((w.setNode i { w.node i with dist := d }).broadcast i ev) := by
  by_cases hi : i < w.nodes.length
  · rw [distWrite_eq w i hi]
    refine XStep.setNode w i _ (nstep_store w i _ rfl h ?_)
    intro e hm r' hr'
    rcases List.mem_append.mp hm with hm | hm
    · exact ⟨r', ⟨i, Or.inr ⟨e, hm, hr'⟩⟩, rfl⟩
    · obtain ⟨k, _, rfl⟩ := List.mem_map.mp hm
      obtain ⟨r, hr, e⟩ := hev r' hr'
      exact ⟨r, ⟨i, Or.inl hr⟩, e⟩
  · rw [distWrite_oob w i hi]
    exact XStep.refl w

theorem x_sessDelete (w : World) (i : Nat) (sid : String) : XStep w (w.sessDelete i sid) := by
  refine (x_tick w).trans ?_
  have hc : w.tick.2 = w.tick.1.clock - 1 := by show w.clock = w.clock + 1 - 1; omega
  unfold World.sessDelete
  generalize w.tick = wt at hc ⊢
  obtain ⟨w1, t⟩ := wt
  dsimp only at hc ⊢
  subst hc
  have hs := sstep_sessDelete (RecIn w1) (w1.node i).dist (w1.clock - 1) sid
  split
  · rename_i e he
    exact x_writeCast w1 i _ e hs.1 (hs.2 e he)
  · exact x_setStore w1 i _ hs.1

theorem x_retainStep (w : World) (i : Nat) (p : Pub) : XStep w (retainStep w i p) := by
  unfold retainStep
  split
  · simp only [World.tick]
    refine XStep.trans (b := ({ w with clock := w.clock + 1 } : World)) (XStep.of_nodes_eq rfl) ?_
    split
    · exact (x_setDist _ _ _).trans (x_broadcast _ _ _)
    · exact (x_setDist _ _ _).trans (x_broadcast _ _ _)
  · exact XStep.refl w

theorem x_extendDeadline (w : World) (i : Nat) (sid : String) : XStep w (w.extendDeadline i sid) :=
  extendDeadline_of (P := XStep w) (XStep.refl w) (fun _ hs => x_setSess w i _ hs)

theorem x_subCreate (w : World) (i : Nat) (sid pat : String) (qos : Int) : XStep w (w.subCreate i sid pat qos) :=
  ((x_tick w).trans (x_setDist _ _ _)).trans (x_broadcast _ _ _)

theorem x_subDelete (w : World) (i : Nat) (sid pat : String) : XStep w (w.subDelete i sid pat) :=
  ((x_tick w).trans (x_setDist _ _ _)).trans (x_broadcast _ _ _)

/-- the publish path leaves registry keys and session stores alone; what it queues carries no session record -/
theorem XStep.of_moves {who : Option String} {w w' : World} (h : Moves who w w') : XStep w w' :=
  h.rel (refl := XStep.refl) (trans := XStep.trans) (emit := fun w c p _ => x_emit w c p)
    (epoch := fun _ => XStep.of_nodes_eq rfl) (extendDeadline := x_extendDeadline)
    (subCreate := fun sid _ w i => x_subCreate w i sid) (subDelete := fun sid _ w i => x_subDelete w i sid)
    (retain := x_retainStep) (topics := fun _ _ w i _ _ hs => x_setSess w i _ hs)
    (tables := fun w i _ _ _ _ _ => x_setNode_same w i _)

theorem x_conns (w : World) (l : List (String × Nat)) : XStep w { w with conns := l } := XStep.of_nodes_eq rfl

/-! ### session end, packets, CONNECT up to the creation of the record -/

theorem x_shutdown (w : World) (i : Nat) (sid : String) : XStep w (w.shutdownSession i sid) := by
  refine shutdown_rel XStep.refl XStep.trans XStep.of_moves (unreg := fun w i s => ?_) (sessDelete := x_sessDelete) w i sid
  exact (XStep.setNode w i { w.node i with reg := (w.node i).reg.filter (fun x => x.id != s.id) }
    (NStep.same w i _ (fun s' hs' => ⟨s', (List.mem_filter.mp hs').1, rfl⟩) rfl (fun _ h => h))).trans
    (XStep.of_nodes_eq rfl)

theorem x_clientPacket (w : World) (conn : String) (pkt : CPkt) : XStep w (w.clientPacket conn pkt) :=
  clientPacket_rel XStep.refl XStep.trans conn XStep.of_moves (disc := fun w i _ hs => x_setSess w i _ hs)
    (shutdown := (x_shutdown · · _)) w pkt

theorem x_connPre (w : World) (c : String) (i : Nat) (client mount : String) : XStep w (connPre w c i client mount) :=
  connPre_rel XStep.refl XStep.trans x_conns x_sessDelete w c i client mount

theorem x_drop (w : World) (c : String) : XStep w (w.drop c) :=
  drop_rel XStep.refl XStep.trans c x_conns (x_emit · c _) (x_shutdown · · _) w

/-! ### gossip, node failure, time -/

/-- node src drops part of its gossip queue, node dst merges events whose session records were records of the cluster -/
theorem x_takeMerge (w : World) (src dst : Nat) (p' : List (Nat × Event)) (hp : ∀ e ∈ p', e ∈ (w.node src).pending)
    (evs : List Event) (hev : ∀ ev ∈ evs, ∀ v ∈ ev.sessions, RecIn w v) :
    XStep w ((w.setNode src { w.node src with pending := p' }).setNode dst
      { (w.setNode src { w.node src with pending := p' }).node dst with
        dist := evs.foldl merge ((w.setNode src { w.node src with pending := p' }).node dst).dist }) := by
  have hk : ∀ k, ((w.setNode src { w.node src with pending := p' }).node k).dist = (w.node k).dist ∧
      ((w.setNode src { w.node src with pending := p' }).node k).reg = (w.node k).reg ∧
      ∀ e ∈ ((w.setNode src { w.node src with pending := p' }).node k).pending, e ∈ (w.node k).pending := by
    intro k
    rw [node_setNode]
    split
    · rename_i hc; rw [hc.1]; exact ⟨rfl, rfl, hp⟩
    · exact ⟨rfl, rfl, fun _ h => h⟩
  have hck : (w.setNode src { w.node src with pending := p' }).clock = w.clock := rfl
  generalize w.setNode src { w.node src with pending := p' } = w1 at hk hck
  refine ⟨by rw [← hck]; exact Int.le_refl _, fun j => ?_⟩
  rw [node_setNode]
  split
  · rename_i hc
    rw [hc.1]
    refine nstep_store w dst _ (hk dst).2.1 ?_ ?_
    · show SStep _ _ _ (evs.foldl merge (w1.node dst).dist).sessions
      have := sstep_foldl_merge (w.clock - 1) (RecIn w) evs hev (w1.node dst).dist
      rw [(hk dst).1] at this
      rw [(hk dst).1]
      exact this
    · intro e he r' hr'
      exact ⟨r', ⟨dst, Or.inr ⟨e, (hk dst).2.2 e he, hr'⟩⟩, rfl⟩
  · exact NStep.same w j _ (fun s' hs' => ⟨s', (hk j).2.1 ▸ hs', rfl⟩) (by rw [(hk j).1]) (hk j).2.2

theorem x_setPending (w : World) (i : Nat) (p' : List (Nat × Event)) (hp : ∀ e ∈ p', e ∈ (w.node i).pending) :
    XStep w (w.setNode i { w.node i with pending := p' }) :=
  XStep.setNode w i _ (NStep.same w i _ (fun s' h => ⟨s', h, rfl⟩) rfl hp)

theorem x_deliverGossip (w : World) (src dst : Nat) : XStep w (w.deliverGossip src dst) := by
  refine deliverGossip_rel' XStep.refl XStep.trans
    (unqueue := fun w src _ => x_setPending w src _ (fun e he => (List.mem_filter.mp he).1))
    (merged := fun w src dst => x_takeMerge w src dst _ (fun e he => (List.mem_filter.mp he).1) _ (fun ev hev v hv => ?_)) w src dst
  obtain ⟨e, he, rfl⟩ := List.mem_map.mp hev
  exact ⟨src, Or.inr ⟨e, (List.mem_filter.mp he).1, hv⟩⟩

theorem x_gossipAll (w : World) : XStep w w.gossipAll := gossipAll_rel XStep.refl XStep.trans x_deliverGossip w

theorem x_notifyLeave (w : World) (i : Nat) (peer : Nat) : XStep w (w.notifyLeave i peer) :=
  notifyLeave_rel XStep.refl XStep.trans XStep.of_moves
    (leavePrefix := fun w i _ => ((x_tick w).trans (x_setDist _ _ _)).trans (x_broadcast _ _ _))
    (timers := fun w i _ => x_setNode_same w i _) w i peer

theorem x_nodeFail (w : World) (f : Nat) : XStep w (w.nodeFail f) :=
  nodeFail_rel XStep.refl XStep.trans
    (fail := fun w f => XStep.setNode w f _ (NStep.same w f _ (fun _ hs' => nomatch hs') rfl (fun _ he => nomatch he)))
    (conns := x_conns) (closed := fun w c => x_emit w c _) (notifyLeave := x_notifyLeave) w f

theorem x_idle (w : World) (ms : Int) : XStep w (w.idle ms) := by
  refine idle_rel' XStep.refl XStep.trans (now := fun _ _ => XStep.of_nodes_eq rfl) (timers := fun w i _ => x_setNode_same w i _)
    (peerWrite := fun b i peer => (x_tick b).trans ?_) (shutdown := x_shutdown) w ms
  have hs := sstep_sessDeletePeer (RecIn b.tick.1) (b.tick.1.node i).dist b.tick.2 peer
  have hc : b.tick.2 = b.tick.1.clock - 1 := by show b.clock = b.clock + 1 - 1; omega
  exact x_writeCast b.tick.1 i _ _ (hc ▸ hs.1) hs.2

/-! ### the invariant -/

/-- session records of a world: every `added` stamp is below the crdt clock; ids are unique per store; and for every
    registered session there is a birth stamp `t` — no record of the cluster under the session's id was added later,
    the records added at `t` carry the session's client identifier and mount point, and the record its own node stores
    under the id was last updated at or after `t` -/
structure RI (w : World) : Prop where
  clk : ∀ r, RecIn w r → r.added < w.clock
  nodup : ∀ j, ((w.node j).dist.sessions.map (·.id)).Nodup
  own : ∀ i, ∀ s ∈ (w.node i).reg, ∃ t, t < w.clock ∧
      (∀ r, RecIn w r → r.id = s.id → r.added ≤ t) ∧
      (∀ r, RecIn w r → r.id = s.id → r.added = t → r.client = s.client ∧ r.mount = s.mount) ∧
      (∃ loc, sessLookup s.id (w.node i).dist.sessions = some loc ∧ t ≤ lu loc)

theorem RI.step {w w' : World} (h : RI w) (hs : XStep w w') : RI w' := by
  have hck := hs.clock
  refine ⟨fun r' hr' => ?_, fun j => (hs.node j).nodup (h.nodup j), fun i s' hs' => ?_⟩
  · obtain ⟨r, hr, e⟩ := hs.recs hr'
    have := h.clk r hr
    have := (rkey_inj e).2.1
    omega
  · obtain ⟨s, hs0, ek⟩ := (hs.node i).reg s' hs'
    obtain ⟨t, ht, b1, b2, loc, hl, hlu⟩ := h.own i s hs0
    simp only [skey, Prod.mk.injEq] at ek
    obtain ⟨eid, _, ecl, emt⟩ := ek
    refine ⟨t, by omega, ?_, ?_, ?_⟩
    · intro r' hr' hid
      obtain ⟨r, hr, e⟩ := hs.recs hr'
      obtain ⟨e1, e2, _, _⟩ := rkey_inj e
      have := b1 r hr (by rw [e1, hid, eid])
      omega
    · intro r' hr' hid hadd
      obtain ⟨r, hr, e⟩ := hs.recs hr'
      obtain ⟨e1, e2, e3, e4⟩ := rkey_inj e
      have := b2 r hr (by rw [e1, hid, eid]) (by omega)
      rw [← e3, ← e4, ← ecl, ← emt]; exact this
    · obtain ⟨loc', hl', m⟩ := (hs.node i).mono s.id loc hl
      exact ⟨loc', eid ▸ hl', by omega⟩

/-- what the invariant says about a registered session's node: the three hypotheses of
    `C11_teardown_removes_record_of_clock` -/
theorem RI.facts {w : World} (h : RI w) (i : Nat) (s : Sess) (hs : s ∈ (w.node i).reg) :
    ((w.node i).dist.sessions.map (·.id)).Nodup ∧
    (∀ md ∈ sessAll (w.node i).dist, md.id = s.id → md.mount = s.mount ∧ md.client = s.client) ∧
    (∀ md ∈ sessAll (w.node i).dist, md.id = s.id → md.added ≤ w.clock) := by
  refine ⟨h.nodup i, fun md hmd hid => ?_, fun md hmd _ => ?_⟩
  · obtain ⟨hm, ha⟩ := AgentT19.mem_sessAll.mp hmd
    obtain ⟨t, _, b1, b2, loc, hl, hlu⟩ := h.own i s hs
    have hrin : RecIn w md := ⟨i, Or.inl hm⟩
    have hl2 := (mem_iff_sessLookup _ (h.nodup i) md).mp hm
    rw [hid, hl] at hl2
    have e : loc = md := Option.some.inj hl2
    subst e
    have hle := b1 loc hrin hid
    have ha' : (decide (loc.added > 0) && decide (loc.added > loc.deleted)) = true := ha
    simp only [Bool.and_eq_true, decide_eq_true_eq] at ha'
    have hlu' : lu loc = loc.added := by unfold lu; simp [ha'.2]
    have := b2 loc hrin hid (by omega)
    exact ⟨this.2, this.1⟩
  · obtain ⟨hm, _⟩ := AgentT19.mem_sessAll.mp hmd
    exact Int.le_of_lt (h.clk md ⟨i, Or.inl hm⟩)

/-! ### CONNECT: a record is created and its session registered -/

theorem sessCreate_ok (st : State) (now : Int) (id client : String) (ca : Int) (lwt : Option Will) (mount : String)
    (h : (sessCreate st now id client ca lwt mount).2.2 = Err.none) :
    sessCreate st now id client ca lwt mount =
      ({ st with sessions := sessSet ⟨id, client, mount, st.peer, ca, lwt, now, 0⟩ st.sessions },
       some { sessions := [⟨id, client, mount, st.peer, ca, lwt, now, 0⟩] }, Err.none) := by
  unfold sessCreate at h ⊢
  split
  · split
    · rename_i h1 h2
      simp only [h1, h2, if_true] at h
      cases h
    · rfl
  · rfl

/-- the world after node i stored a fresh record `s'` (added at the clock), queued it and registered its session -/
theorem RI.create {w0 F : World} (h0 : RI w0) (i : Nat) (s' : SessionMD) (sn : Sess) (X : List (Nat × Event))
    (hclock : F.clock = w0.clock + 1)
    (hother : ∀ j, j ≠ i → F.node j = w0.node j)
    (hreg : (F.node i).reg = (w0.node i).reg ++ [sn])
    (hst : (F.node i).dist.sessions = sessSet s' (w0.node i).dist.sessions)
    (hpend : (F.node i).pending = (w0.node i).pending ++ X) (hX : ∀ e ∈ X, e.2.sessions = [s'])
    (hadd : s'.added = w0.clock) (hid : s'.id = sn.id) (hcl : s'.client = sn.client) (hmt : s'.mount = sn.mount)
    (hfresh : ∀ j, ∀ s ∈ (w0.node j).reg, s.id ≠ sn.id) : RI F := by
  have hrec : ∀ r, RecIn F r → r = s' ∨ RecIn w0 r := by
    intro r ⟨j, hj⟩
    by_cases hji : j = i
    · subst hji
      rcases hj with hj | ⟨e, he, hre⟩
      · rw [hst] at hj
        rcases sessSet_mem hj with e | hm
        · exact Or.inl e
        · exact Or.inr ⟨j, Or.inl hm⟩
      · rw [hpend] at he
        rcases List.mem_append.mp he with he | he
        · exact Or.inr ⟨j, Or.inr ⟨e, he, hre⟩⟩
        · rw [hX e he] at hre
          exact Or.inl (List.mem_singleton.mp hre)
    · rw [hother j hji] at hj
      exact Or.inr ⟨j, hj⟩
  have hold : ∀ j, ∀ s ∈ (w0.node j).reg, ∃ t, t < F.clock ∧
      (∀ r, RecIn F r → r.id = s.id → r.added ≤ t) ∧
      (∀ r, RecIn F r → r.id = s.id → r.added = t → r.client = s.client ∧ r.mount = s.mount) ∧
      (∃ loc, sessLookup s.id (F.node j).dist.sessions = some loc ∧ t ≤ lu loc) := by
    intro j s hs
    obtain ⟨t, ht, b1, b2, loc, hl, hlu⟩ := h0.own j s hs
    have hne : s'.id ≠ s.id := by rw [hid]; exact (hfresh j s hs).symm
    refine ⟨t, by omega, ?_, ?_, loc, ?_, hlu⟩
    · intro r hr hrid
      rcases hrec r hr with rfl | hr0
      · exact absurd hrid hne
      · exact b1 r hr0 hrid
    · intro r hr hrid
      rcases hrec r hr with rfl | hr0
      · exact absurd hrid hne
      · exact b2 r hr0 hrid
    · by_cases hji : j = i
      · subst hji
        rw [hst, sessLookup_sessSet, if_neg hne]; exact hl
      · rw [hother j hji]; exact hl
  refine ⟨fun r hr => ?_, fun j => ?_, fun j s hs => ?_⟩
  · rcases hrec r hr with rfl | hr0
    · omega
    · have := h0.clk r hr0; omega
  · by_cases hji : j = i
    · subst hji; rw [hst]; exact sessSet_nodup _ _ (h0.nodup j)
    · rw [hother j hji]; exact h0.nodup j
  · by_cases hji : j = i
    · subst hji
      rw [hreg] at hs
      rcases List.mem_append.mp hs with hs | hs
      · exact hold j s hs
      · have e : s = sn := List.mem_singleton.mp hs
        subst e
        refine ⟨w0.clock, by omega, ?_, ?_, s', ?_, ?_⟩
        · intro r hr _
          rcases hrec r hr with rfl | hr0
          · omega
          · exact Int.le_of_lt (h0.clk r hr0)
        · intro r hr _ ha
          rcases hrec r hr with rfl | hr0
          · exact ⟨hcl, hmt⟩
          · have := h0.clk r hr0; omega
        · rw [hst, sessLookup_sessSet, if_pos hid]
        · unfold lu; split <;> omega
    · rw [hother j hji] at hs
      exact hold j s hs

theorem ri_connect {w : World} (hg : RInv w) (h : RI w) (c : String) (i : Nat) (client mount : String) (authOk : Bool)
    (ka : Nat) (will : Option Will) (hno : NoConn c w) : RI (w.connect c i client mount authOk ka will) := by
  cases authOk with
  | false => exact h.step (XStep.of_nodes_eq rfl)
  | true =>
    rw [connect_eq]
    have hx0 := x_connPre w c i client mount
    have hg0 := rinv_connPre hg c i client mount hno
    have hno0 : NoConn c (connPre w c i client mount) := hno.of_sameReg hg hg0 (sr_connPre w c i client mount)
    have h0 := h.step hx0
    split
    · exact h0.step ((x_tick _).trans (x_emit _ _ _))
    · rename_i herr
      have herr' := Classical.not_not.mp herr
      have hsc := sessCreate_ok _ _ _ _ _ _ _ herr'
      simp only
      unfold connMid
      simp only
      rw [hsc]
      simp only
      generalize connPre w c i client mount = w0 at *
      by_cases hi : i < w0.nodes.length
      · have hi1 : i < w0.tick.1.nodes.length := hi
        rw [distWrite_eq _ i hi1, node_setNode_self _ _ _ hi1, setNode_setNode]
        refine RI.create h0 i ⟨"S" ++ c, client, mount, (w0.node i).dist.peer, 0, will, w0.clock, 0⟩
          (connSess w0.now c client mount ka will)
          (((List.range w0.nodes.length).filter (· != i)).map (fun j => (j, ({ sessions := [⟨"S" ++ c, client, mount, (w0.node i).dist.peer, 0, will, w0.clock, 0⟩] } : Event))))
          rfl ?_ ?_ ?_ ?_ ?_ rfl rfl rfl rfl ?_
        · intro j hji
          rw [node_emit, node_setNode_ne _ _ _ _ hji]
          rfl
        · rw [node_emit, node_setNode_self _ _ _ hi1]
          rfl
        · rw [node_emit, node_setNode_self _ _ _ hi1]
          rfl
        · rw [node_emit, node_setNode_self _ _ _ hi1]
          rfl
        · intro e he
          obtain ⟨j, _, rfl⟩ := List.mem_map.mp he
          rfl
        · intro j s hs e
          have := (hg0.node j).regConn s hs
          rw [e] at this
          exact hno0 j s hs (S_inj this).symm
      · have hi' : ¬ i < w0.tick.1.nodes.length := hi
        rw [distWrite_oob _ i hi', AgentC.setNode_ge _ _ _ (Nat.le_of_not_lt hi')]
        exact h0.step ((x_tick _).trans (x_emit _ _ _))

/-! ### the byte-level path, and the operations of `applyOp` -/
open Wasp.Wire

/-- `GI` (`GlobalInv` as a pair) rides along because CONNECT keeps `RI` only for a connection without session
    (`NoConn`), which `GI` provides (`j_wire`) -/
def J (w : World) : Prop := GI w ∧ RI w

theorem x_frame {w w' : World} (hn : w'.nodes = w.nodes) (hk : w'.clock = w.clock) : XStep w w' :=
  XStep.of_nodes_eq hn (by rw [hk]; exact Int.le_refl _)

theorem j_wire : WireInv J NoConn where
  frame h hn hc hk := ⟨gi_wire.frame h.1 hn hc hk, h.2.step (x_frame hn hk)⟩
  shutdown h i sid := ⟨gi_wire.shutdown h.1 i sid, h.2.step (x_shutdown _ i sid)⟩
  clientPacket h c p := ⟨gi_wire.clientPacket h.1 c p, h.2.step (x_clientPacket _ c p)⟩
  connect h c i client mount authOk ka will hno :=
    ⟨gi_wire.connect h.1 c i client mount authOk ka will hno, ri_connect h.1.2 h.2 c i client mount authOk ka will hno⟩
  drop h c := ⟨⟨(gi_wire.drop h.1 c).1, h.2.step (x_drop _ c)⟩, (gi_wire.drop h.1 c).2⟩
  idle h ms := ⟨gi_wire.idle h.1 ms, h.2.step (x_idle _ ms)⟩
  unlisted h hf := gi_wire.unlisted h.1 hf
  noSess h hf hno := gi_wire.noSess h.1 hf hno
  congr := gi_wire.congr
  unlist h hno hn hc hk := ⟨gi_wire.unlist h.1 hno hn hc hk, h.2.step (x_frame hn hk)⟩
  assign h hno hn hc hk := ⟨gi_wire.assign h.1 hno hn hc hk, h.2.step (x_frame hn hk)⟩
  shift h ms := ⟨gi_wire.shift h.1 ms, h.2.step ⟨Int.le_refl _, fun j => by
    rw [shift_node]
    exact NStep.same _ j _ (fun s' hs' => ⟨s', hs', rfl⟩) rfl (fun _ he => he)⟩⟩

theorem j_init (n : Nat) : J (World.init n) := by
  refine ⟨gi_init n, ?_⟩
  have hnode : ∀ j, (World.init n).node j = { peer := (World.init n).node j |>.peer, dist := { peer := ((World.init n).node j).dist.peer }, pool := initPool } := by
    intro j
    simp only [World.init, World.node, List.getD_eq_getElem?_getD, List.getElem?_map]
    cases (List.range n)[j]? <;> rfl
  have hs : ∀ j, ((World.init n).node j).dist.sessions = [] := fun j => by rw [hnode j]
  have hp : ∀ j, ((World.init n).node j).pending = [] := fun j => by rw [hnode j]
  have hr : ∀ j, ((World.init n).node j).reg = [] := fun j => by rw [hnode j]
  refine ⟨fun r ⟨j, hj⟩ => ?_, fun j => by rw [hs j]; exact List.nodup_nil, fun i s hsm => by rw [hr i] at hsm; cases hsm⟩
  rcases hj with hj | ⟨e, he, _⟩
  · rw [hs j] at hj; cases hj
  · rw [hp j] at he; cases he

theorem j_step {w : World} (h : J w) (op : BOp) : J (applyOp w op) := by
  refine ⟨gi_step h.1 op, ?_⟩
  cases op with
  | connect c node client mount authOk ka will => exact (j_wire.op_connect h c node client mount authOk ka will).2
  | packet c pkt => exact (j_wire.op_packet h c pkt).2
  | drop c => exact (j_wire.closeFromClient h c).1.2
  | openConn c node => exact (j_wire.op_openConn h c node).2
  | raw c b => exact (j_wire.rawBytes h c b).2
  | gossipAll => exact h.2.step (x_gossipAll w)
  | gossip f t => exact h.2.step (x_deliverGossip w f t)
  | gossipOne f t k =>
    simp only [applyOp]
    split
    · exact h.2
    · rename_i e he
      have hmem : e ∈ (w.node f).pending := (List.mem_filter.mp (List.mem_of_getElem? he)).1
      split
      · exact h.2.step (x_setPending w f _ (dropKth_mem t _ k))
      · refine h.2.step (x_takeMerge w f t _ (dropKth_mem t _ k) [e.2] ?_)
        intro ev hev v hv
        rw [List.mem_singleton.mp hev] at hv
        exact ⟨f, Or.inr ⟨e, hmem, hv⟩⟩
  | loseGossip f t =>
    simp only [applyOp]
    exact h.2.step (x_setPending w f _ (fun e he => (List.mem_filter.mp he).1))
  | sync f t =>
    simp only [applyOp]
    refine h.2.step (x_setStore w t _ (sstep_merge _ _ _ _ ?_))
    intro v hv
    exact ⟨f, Or.inl hv⟩
  | unreachable n b => exact h.2.step (x_setNode_same w n _)
  | logFailAll n b => exact h.2.step (x_setNode_same w n _)
  | logFailAt n k => exact h.2.step (x_setNode_same w n _)
  | logFailNone n => exact h.2.step (x_setNode_same w n _)
  | nodeFail n => exact h.2.step (x_nodeFail w n)
  | sweep n => exact h.2.step (.of_moves (moves_sweep w n))
  | idle ms => exact (j_wire.wireIdle h ms).2
  | elapse ms => exact (j_wire.elapse h ms).2
  | setPool n lo hi =>
    simp only [applyOp]
    split
    · exact h.2.step (x_setNode_same w n _)
    · exact h.2
  | rpcPublish n topic payload => exact h.2.step (.of_moves (moves_distribute w n _))

theorem j_reachable {w : World} (h : Reachable w) : J w := h.ind j_init (fun _ op h => j_step h op)

end Wasp.Broker.AgentT20
