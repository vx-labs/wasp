import Wasp.Model.WireEnc
import Wasp.Proofs.BrokerRel
/-!
helper lemmas for Wasp/Properties/WireRoundTrip.lean: the encoder of Wasp/Model/WireEnc.lean is a
right inverse of the decoder of Wasp/Model/Wire.lean, and the byte path of the model agrees with its packet path.
-/
namespace Wasp.Wire.AgentT16
open Wasp.Wire Wasp.Broker Wasp.Dist

/-! ### strings, 16-bit numbers, length-prefixed fields -/

theorem str_strBytes (s : String) : str (strBytes s) = s := by
  unfold str strBytes
  rw [List.map_map]
  have : (Char.ofNat ∘ Char.toNat) = id := by
    funext c
    simp [Char.ofNat_toNat]
  rw [this, List.map_id, String.ofList_toList]

theorem strBytes_length (s : String) : (strBytes s).length = s.length := by
  simp [strBytes, String.length_toList]

theorem be16_length (n : Nat) : (be16 n).length = 2 := rfl

theorem encStr_length (s : String) : (encStr s).length = 2 + s.length := by
  simp [encStr, be16_length, strBytes_length]

theorem u16_be16 (m : Nat) (rest : Bytes) : u16 (be16 m ++ rest) = some m :=
  congrArg some (Nat.div_add_mod' m 256)

theorem be16_drop (m : Nat) (rest : Bytes) : (be16 m ++ rest).drop 2 = rest := rfl

theorem decodeLP_be16 (n : Nat) (r : Bytes) :
    decodeLP (be16 n ++ r) = if r.length < n then none else some (r.take n, r.drop n) := by
  simp only [be16, List.cons_append, List.nil_append, decodeLP, Nat.div_add_mod']

theorem decodeLP_encBin (b rest : Bytes) : decodeLP (encBin b ++ rest) = some (b, rest) := by
  rw [encBin, List.append_assoc, decodeLP_be16, if_neg (by simp), List.take_left, List.drop_left]

theorem decodeLP_encStr (s : String) (rest : Bytes) : decodeLP (encStr s ++ rest) = some (strBytes s, rest) := by
  have := decodeLP_encBin (strBytes s) rest
  rwa [encBin, strBytes_length] at this

/-! ### hex payloads -/

/-- the `let hexDigit` of `hexOf` under a name: `hexOf b` is `String.ofList (hexChars b)` by `rfl` -/
def hexDigit (n : Nat) : Char := if n < 10 then Char.ofNat (48 + n) else Char.ofNat (87 + n)

def hexChars (b : Bytes) : List Char := b.foldr (fun x acc => hexDigit (x / 16) :: hexDigit (x % 16) :: acc) []

theorem hexNibble_inv {c : Char} {x : Nat} (h : hexNibble c = some x) : x < 16 ∧ hexDigit x = c := by
  unfold hexNibble at h
  split at h
  · rename_i hc
    cases h
    have lt : ∀ k, 57 < 48 + k → c.toNat - 48 < k := fun k hk =>
      Nat.sub_lt_left_of_lt_add hc.1 (Nat.lt_of_le_of_lt hc.2 hk)
    refine ⟨lt 16 (by decide), ?_⟩
    rw [hexDigit, if_pos (lt 10 (by decide)), Nat.add_sub_cancel' hc.1, Char.ofNat_toNat]
  · split at h
    · rename_i hc
      cases h
      have h87 : 87 ≤ c.toNat := Nat.le_trans (by decide) hc.1
      refine ⟨Nat.sub_lt_left_of_lt_add h87 (Nat.lt_succ_of_le hc.2), ?_⟩
      rw [hexDigit, if_neg (Nat.not_lt.mpr (Nat.le_sub_of_add_le hc.1)), Nat.add_sub_cancel' h87, Char.ofNat_toNat]
    · cases h

theorem hexChars_unhex (l : List Char) (b : Bytes) (h : unhex l = some b) : hexChars b = l := by
  fun_induction unhex l generalizing b with
  | case1 => cases h; rfl
  | case2 => cases h
  | case3 a c rest x y r hr hy hx ih =>
    cases h
    have hx := hexNibble_inv hx
    have hy := hexNibble_inv hy
    show hexDigit ((x * 16 + y) / 16) :: hexDigit ((x * 16 + y) % 16) :: hexChars r = _
    rw [Nat.mul_comm x 16, Nat.mul_add_div (by decide), Nat.mul_add_mod, Nat.div_eq_of_lt hy.1, Nat.mod_eq_of_lt hy.1,
      Nat.add_zero, hx.2, hy.2, ih r hr]
  | case4 a c rest hno ih => cases h

theorem hexOf_payloadBytes (s : String) (h : (unhex s.toList).isSome) : hexOf (payloadBytes s) = s := by
  obtain ⟨b, hb⟩ := Option.isSome_iff_exists.mp h
  show String.ofList (hexChars _) = s
  rw [payloadBytes, hb, Option.getD_some, hexChars_unhex _ _ hb, String.ofList_toList]

/-! ### remaining length -/

theorem encRemLenF_length_le (k n : Nat) : (encRemLenF k n).length ≤ k + 1 := by
  fun_induction encRemLenF k n with
  | case1 n => exact Nat.le_refl 1
  | case2 k n h => exact Nat.le_add_left 1 (k + 1)
  | case3 k n h ih => exact Nat.succ_le_succ ih

theorem encRemLenF_pos (k n : Nat) : 0 < (encRemLenF k n).length := by
  fun_cases encRemLenF k n with
  | case1 n => exact Nat.one_pos
  | case2 k n h => exact Nat.one_pos
  | case3 k n h => exact Nat.succ_pos _

theorem readRemLen_nil {idx : Nat} (acc mult : Nat) (hi : idx < 4) : readRemLen idx acc mult [] = .need := by
  rw [readRemLen, if_neg (Nat.not_le.mpr hi)]

theorem readRemLen_last {idx b : Nat} (acc mult : Nat) (rest : Bytes) (hi : idx < 4) (hb : b < 128) :
    readRemLen idx acc mult (b :: rest) = .ok (acc + b * mult) (idx + 1) := by
  rw [readRemLen, if_neg (Nat.not_le.mpr hi), if_pos hb]

theorem readRemLen_more {idx b : Nat} (acc mult : Nat) (rest : Bytes) (hi : idx < 4) (hb : ¬ b < 128) :
    readRemLen idx acc mult (b :: rest) = readRemLen (idx + 1) (acc + b % 128 * mult) (mult * 128) rest := by
  rw [readRemLen, if_neg (Nat.not_le.mpr hi), if_neg hb]

theorem readRemLen_encF (k n idx acc mult : Nat) (rest : Bytes) (hi : k + idx < 4) (hn : n < 128 ^ (k + 1)) :
    readRemLen idx acc mult (encRemLenF k n ++ rest) = .ok (acc + n * mult) (idx + (encRemLenF k n).length) := by
  have hidx : idx < 4 := Nat.lt_of_le_of_lt (Nat.le_add_left idx k) hi
  fun_induction encRemLenF k n generalizing idx acc mult with
  | case1 n => exact readRemLen_last _ _ _ hidx hn
  | case2 k n h => exact readRemLen_last _ _ _ hidx h
  | case3 k n h ih =>
    rw [Nat.succ_add_eq_add_succ] at hi
    rw [Nat.pow_succ'] at hn
    -- the value: `n % 128 * mult + n / 128 * (mult * 128) = n * mult`
    rw [List.cons_append, readRemLen_more _ _ _ hidx (Nat.not_lt.mpr (Nat.le_add_left 128 _)),
      ih _ _ _ hi (Nat.div_lt_of_lt_mul hn) (Nat.lt_of_le_of_lt (Nat.le_add_left _ k) hi),
      Nat.add_mod_right, Nat.mod_mod, Nat.add_assoc acc, Nat.mul_comm mult, ← Nat.mul_assoc, ← Nat.add_mul,
      Nat.mod_add_div', List.length_cons, Nat.succ_add_eq_add_succ]

theorem readRemLen_enc (n : Nat) (rest : Bytes) (h : n ≤ maxRemLen) :
    readRemLen 0 0 1 (encRemLen n ++ rest) = .ok n (encRemLen n).length := by
  have := readRemLen_encF 3 n 0 0 1 rest (by decide) (Nat.lt_succ_of_le h)
  rwa [Nat.zero_add, Nat.zero_add, Nat.mul_one] at this

theorem readRemLen_encF_take (k n idx acc mult j : Nat) (hi : k + idx < 4) (hj : j < (encRemLenF k n).length) :
    readRemLen idx acc mult ((encRemLenF k n).take j) = .need := by
  have hidx : idx < 4 := Nat.lt_of_le_of_lt (Nat.le_add_left idx k) hi
  cases j with
  | zero => exact readRemLen_nil _ _ hidx
  | succ j =>
    fun_induction encRemLenF k n generalizing idx acc mult j with
    | case1 n => exact absurd (Nat.le_of_succ_le_succ hj) (Nat.not_succ_le_zero j)
    | case2 k n h => exact absurd (Nat.le_of_succ_le_succ hj) (Nat.not_succ_le_zero j)
    | case3 k n h ih =>
      rw [Nat.succ_add_eq_add_succ] at hi
      have hidx' : idx + 1 < 4 := Nat.lt_of_le_of_lt (Nat.le_add_left _ k) hi
      rw [List.take_succ_cons, readRemLen_more _ _ _ hidx (Nat.not_lt.mpr (Nat.le_add_left 128 _))]
      cases j with
      | zero => exact readRemLen_nil _ _ hidx'
      | succ j => exact ih _ _ _ hi hidx' j (Nat.lt_of_succ_lt_succ hj)

theorem readRemLen_enc_take (n j : Nat) (hj : j < (encRemLen n).length) :
    readRemLen 0 0 1 ((encRemLen n).take j) = .need :=
  readRemLen_encF_take 3 n 0 0 1 j (by decide) hj

/-! ### one frame -/

theorem takeFrame_frameOf (t f : Nat) (body rest : Bytes) (hf : f < 16) (hl : body.length ≤ maxRemLen) :
    takeFrame (frameOf t f body ++ rest) = .frame t f body rest := by
  simp only [frameOf, List.cons_append, List.append_assoc, takeFrame]
  rw [readRemLen_enc _ _ hl]
  simp only [List.drop_left, List.length_append, List.take_left]
  rw [if_neg (Nat.not_lt.mpr (Nat.le_add_right _ _)), Nat.mul_comm t, Nat.mul_add_div (by decide), Nat.mul_add_mod,
    Nat.div_eq_of_lt hf, Nat.mod_eq_of_lt hf]
  rfl

/-- a packet that has arrived only in part is not acted upon -/
theorem takeFrame_frameOf_take (t f : Nat) (body : Bytes) (k : Nat) (hl : body.length ≤ maxRemLen)
    (hk : k < (frameOf t f body).length) : takeFrame ((frameOf t f body).take k) = .need := by
  rw [frameOf, List.length_cons, List.length_append] at hk
  cases k with
  | zero => rfl
  | succ k =>
    simp only [frameOf, List.take_succ_cons, takeFrame]
    rw [List.take_append]
    by_cases hlt : k < (encRemLen body.length).length
    · rw [Nat.sub_eq_zero_of_le (Nat.le_of_lt hlt), List.take_zero, List.append_nil, readRemLen_enc_take _ _ hlt]
    · rw [List.take_of_length_le (Nat.le_of_not_lt hlt), readRemLen_enc _ _ hl]
      simp only [List.drop_left, List.length_take]
      exact if_pos (Nat.lt_of_le_of_lt (Nat.min_le_left _ _)
        (Nat.sub_lt_left_of_lt_add (Nat.le_of_not_lt hlt) (Nat.lt_of_succ_lt_succ hk)))

/-! ### flag bits of PUBLISH and CONNECT -/

theorem pubFlags_fields : ∀ (qos : Nat), qos < 3 → ∀ (r d : Bool),
    pubFlags qos r d < 16 ∧ (pubFlags qos r d % 2 = 1 ↔ r = true) ∧ pubFlags qos r d / 2 % 4 = qos ∧
    (pubFlags qos r d / 8 % 2 = 1 ↔ d = true) := by
  decide +kernel

theorem decide_eq_bool {P : Prop} {inst : Decidable P} {b : Bool} (h : P ↔ b = true) : @decide P inst = b := by
  cases b
  · exact decide_eq_false (fun hc => Bool.noConfusion (h.mp hc))
  · exact decide_eq_true (h.mpr rfl)

/-- `x` is `connectFlags u p will` with the will's part as Booleans and a number, so that the 48 rows can be evaluated;
    `connectFlags` unfolds to this sum in `connectFlags_none` and `connectFlags_some` -/
theorem connectFlags_fields : ∀ (q : Nat), q < 3 → ∀ (u p r w : Bool),
    let x := (if u then 128 else 0) + (if p then 64 else 0) + ((if r then 32 else 0) + q * 8 + (if w then 4 else 0))
    x < 256 ∧ (x / 128 % 2 = 1 ↔ u = true) ∧ (x / 64 % 2 = 1 ↔ p = true) ∧ (x / 32 % 2 = 1 ↔ r = true) ∧
      x / 8 % 4 = q ∧ (x / 4 % 2 = 1 ↔ w = true) := by
  decide +kernel

theorem connectFlags_none (u p : Bool) :
    connectFlags u p none < 256 ∧ (connectFlags u p none / 128 % 2 = 1 ↔ u = true) ∧
      (connectFlags u p none / 64 % 2 = 1 ↔ p = true) ∧ ¬ connectFlags u p none / 4 % 2 = 1 := by
  obtain ⟨h, hu, hp, _, _, hw⟩ := connectFlags_fields 0 (by decide) u p false false
  exact ⟨h, hu, hp, fun hc => Bool.noConfusion (hw.mp hc)⟩

theorem connectFlags_some (u p : Bool) (wl : Will) (hq : wl.qos ≤ 2) :
    connectFlags u p (some wl) < 256 ∧ (connectFlags u p (some wl) / 128 % 2 = 1 ↔ u = true) ∧
      (connectFlags u p (some wl) / 64 % 2 = 1 ↔ p = true) ∧
      (connectFlags u p (some wl) / 32 % 2 = 1 ↔ wl.retain = true) ∧ connectFlags u p (some wl) / 8 % 4 = wl.qos ∧
      connectFlags u p (some wl) / 4 % 2 = 1 := by
  obtain ⟨h, hu, hp, hr, hqos, hw⟩ := connectFlags_fields wl.qos (Nat.lt_succ_of_le hq) u p wl.retain true
  exact ⟨h, hu, hp, hr, hqos, hw.mpr rfl⟩

/-! ### SUBSCRIBE / UNSUBSCRIBE filter lists

Both bodies are a concatenation of non-empty fields that one decoder function counts and another reads back; the
induction over the list is done once, for any such pair. -/

theorem flatMap_ne_nil {α : Type} {enc : α → Bytes} (hpos : ∀ a, enc a ≠ []) :
    ∀ {ts : List α}, ts ≠ [] → ts.flatMap enc ≠ []
  | [], h => absurd rfl h
  | a :: _, _ => fun h => hpos a (List.append_eq_nil_iff.mp h).1

theorem length_le_flatMap {α : Type} {enc : α → Bytes} (hpos : ∀ a, enc a ≠ []) :
    ∀ ts : List α, ts.length ≤ (ts.flatMap enc).length
  | [] => Nat.le_refl 0
  | a :: rest => by
    rw [List.flatMap_cons, List.length_append]
    exact Nat.succ_le_of_lt (Nat.lt_of_le_of_lt (length_le_flatMap hpos rest)
      (Nat.lt_add_of_pos_left (List.length_pos_iff.mpr (hpos a))))

theorem count_flatMap {α : Type} {enc : α → Bytes} {count : Nat → Bytes → Option Nat}
    (hpos : ∀ a, enc a ≠ [])
    (step : ∀ fuel a tail,
      count (fuel + 1) (enc a ++ tail) = if tail = [] then some 1 else (count fuel tail).map (· + 1))
    (ts : List α) (h : ts ≠ []) (fuel : Nat) (hf : ts.length ≤ fuel) :
    count fuel (ts.flatMap enc) = some ts.length := by
  induction ts generalizing fuel with
  | nil => exact absurd rfl h
  | cons a rest ih =>
    cases fuel with
    | zero => exact absurd hf (Nat.not_succ_le_zero _)
    | succ fuel =>
      rw [List.flatMap_cons, step]
      by_cases hr : rest = []
      · subst hr
        rfl
      · rw [if_neg (flatMap_ne_nil hpos hr), ih hr fuel (Nat.le_of_succ_le_succ hf)]
        rfl

theorem read_flatMap {α : Type} {enc : α → Bytes} {read : Nat → Bytes → Option (List α)}
    (nil : ∀ fuel, read fuel [] = some [])
    (step : ∀ fuel a tail, read (fuel + 1) (enc a ++ tail) = (read fuel tail).map (a :: ·))
    (ts : List α) (fuel : Nat) (hf : ts.length ≤ fuel) : read fuel (ts.flatMap enc) = some ts := by
  induction ts generalizing fuel with
  | nil => exact nil fuel
  | cons a rest ih =>
    cases fuel with
    | zero => exact absurd hf (Nat.not_succ_le_zero _)
    | succ fuel =>
      rw [List.flatMap_cons, step, ih fuel (Nat.le_of_succ_le_succ hf)]
      rfl

theorem encStr_ne_nil (s : String) (tail : Bytes) : encStr s ++ tail ≠ [] := List.cons_ne_nil _ _

/-- what `count(Un)SubTopics` look at in a field that starts with a length-prefixed string -/
theorem field_shape (s : String) (extra tail : Bytes) :
    ∃ r, encStr s ++ extra ++ tail = (s.length / 256) :: (s.length % 256) :: r ∧
      (encStr s ++ extra ++ tail).length = 2 + s.length + extra.length + tail.length ∧
      (encStr s ++ extra ++ tail).drop (2 + s.length + extra.length) = tail := by
  refine ⟨strBytes s ++ extra ++ tail, rfl, ?_, ?_⟩
  · rw [List.length_append, List.length_append, encStr_length]
  · exact List.drop_left' (by rw [List.length_append, encStr_length])

/-- the tests of `count(Un)SubTopics` after a field of `N` bytes followed by `tail` -/
theorem count_ite (N : Nat) (tail : Bytes) (x : Option Nat) :
    (if N = N + tail.length then some 1 else if N + tail.length < N then none else x) =
      if tail = [] then some 1 else x := by
  cases tail with
  | nil => exact (if_pos rfl).trans (if_pos rfl).symm
  | cons y tail =>
    rw [List.length_cons, if_neg (Nat.ne_of_lt (Nat.lt_add_of_pos_right (Nat.succ_pos _))),
      if_neg (Nat.not_lt.mpr (Nat.le_add_right _ _)), if_neg (List.cons_ne_nil _ _)]

theorem countSubTopics_step (fuel : Nat) (tq : String × Nat) (tail : Bytes) :
    countSubTopics (fuel + 1) (encStr tq.1 ++ [tq.2] ++ tail) =
      if tail = [] then some 1 else (countSubTopics fuel tail).map (· + 1) := by
  obtain ⟨r, hb, hl, hd⟩ := field_shape tq.1 [tq.2] tail
  rw [List.length_singleton] at hl hd
  rw [hb, countSubTopics]
  simp only [Nat.div_add_mod']
  rw [← hb, hl, hd, count_ite,
    if_neg (Nat.not_lt.mpr (Nat.le_trans (Nat.succ_le_succ (Nat.le_add_right 2 _)) (Nat.le_add_right _ _)))]

theorem readSubTopics_step (fuel : Nat) (tq : String × Nat) (tail : Bytes) :
    readSubTopics (fuel + 1) (encStr tq.1 ++ [tq.2] ++ tail) = (readSubTopics fuel tail).map (tq :: ·) := by
  rw [List.append_assoc, readSubTopics, List.isEmpty_eq_false_iff.mpr (encStr_ne_nil _ _), decodeLP_encStr]
  simp only [Bool.false_eq_true, if_false, List.cons_append, List.nil_append, str_strBytes]

theorem encSubs_length_ge (ts : List (String × Nat)) : ts.length ≤ (encSubs ts).length :=
  length_le_flatMap (enc := fun tq : String × Nat => encStr tq.1 ++ [tq.2]) (fun tq => encStr_ne_nil tq.1 _) ts

theorem countSub_enc (ts : List (String × Nat)) (h : ts ≠ []) (fuel : Nat) (hf : ts.length ≤ fuel) :
    countSubTopics fuel (encSubs ts) = some ts.length :=
  count_flatMap (enc := fun tq : String × Nat => encStr tq.1 ++ [tq.2]) (count := countSubTopics)
    (fun tq => encStr_ne_nil tq.1 _) countSubTopics_step ts h fuel hf

theorem readSub_enc (ts : List (String × Nat)) (fuel : Nat) (hf : ts.length ≤ fuel) :
    readSubTopics fuel (encSubs ts) = some ts :=
  read_flatMap (enc := fun tq : String × Nat => encStr tq.1 ++ [tq.2]) (read := readSubTopics)
    (fun fuel => by cases fuel <;> rfl) readSubTopics_step ts fuel hf

theorem countUnsubTopics_step (fuel : Nat) (t : String) (tail : Bytes) :
    countUnsubTopics (fuel + 1) (encStr t ++ tail) =
      if tail = [] then some 1 else (countUnsubTopics fuel tail).map (· + 1) := by
  obtain ⟨r, hb, hl, hd⟩ := field_shape t [] tail
  rw [List.append_nil] at hb hl hd
  rw [List.length_nil, Nat.add_zero] at hl hd
  rw [hb, countUnsubTopics]
  simp only [Nat.div_add_mod']
  rw [← hb, hl, hd]
  exact count_ite _ tail _

theorem readUnsubTopics_step (fuel : Nat) (t : String) (tail : Bytes) :
    readUnsubTopics (fuel + 1) (encStr t ++ tail) = (readUnsubTopics fuel tail).map (t :: ·) := by
  rw [readUnsubTopics, List.isEmpty_eq_false_iff.mpr (encStr_ne_nil _ _), decodeLP_encStr]
  simp only [Bool.false_eq_true, if_false, str_strBytes]

theorem encUnsubs_length_ge (ts : List String) : ts.length ≤ (encUnsubs ts).length :=
  length_le_flatMap (enc := encStr) (fun _ => List.cons_ne_nil _ _) ts

theorem countUnsub_enc (ts : List String) (h : ts ≠ []) (fuel : Nat) (hf : ts.length ≤ fuel) :
    countUnsubTopics fuel (encUnsubs ts) = some ts.length :=
  count_flatMap (enc := encStr) (count := countUnsubTopics) (fun _ => List.cons_ne_nil _ _) countUnsubTopics_step ts h
    fuel hf

theorem readUnsub_enc (ts : List String) (fuel : Nat) (hf : ts.length ≤ fuel) :
    readUnsubTopics fuel (encUnsubs ts) = some ts :=
  read_flatMap (enc := encStr) (read := readUnsubTopics) (fun fuel => by cases fuel <;> rfl)
    readUnsubTopics_step ts fuel hf

/-! ### the body of each packet type -/

theorem mid_cast {m : Int} (h : MidOk m) : ((m.toNat : Nat) : Int) = m := Int.toNat_of_nonneg h.1

theorem decodeBody_ack (t : Nat) (f : Nat) (m : Int) (h : MidOk m) (mk : Int → CPkt)
    (ht : ∀ body, decodeBody t f body = match u16 body with | none => .panic | some m => .pkt (mk m)) :
    decodeBody t f (be16 m.toNat) = .pkt (mk m) := by
  rw [ht, ← List.append_nil (be16 _), u16_be16]
  simp only [mid_cast h]

theorem decodeBody_publish (topic payload : String) (qos : Nat) (retain dup : Bool) (mid : Int)
    (hhex : (unhex payload.toList).isSome) (hq : qos ≤ 2) (hm : qos = 0 ∨ MidOk mid) :
    decodeBody 3 (pubFlags qos retain dup)
      (encStr topic ++ ((if qos = 0 then [] else be16 mid.toNat) ++ payloadBytes payload)) =
    .pkt (.publish topic payload qos retain dup (if qos = 0 then 0 else mid)) := by
  obtain ⟨_, hr, hqos, hd⟩ := pubFlags_fields qos (Nat.lt_succ_of_le hq) retain dup
  unfold decodeBody
  simp only [decodeLP_encStr, hqos, decide_eq_bool hr, decide_eq_bool hd, str_strBytes]
  by_cases h0 : qos = 0
  · subst h0
    simp only [Nat.lt_irrefl, if_false, if_true, List.nil_append, hexOf_payloadBytes payload hhex]
  · simp only [if_pos (Nat.pos_of_ne_zero h0), if_neg h0, u16_be16, be16_drop, hexOf_payloadBytes payload hhex,
      mid_cast (hm.resolve_left h0)]

/-- the decoder's fuel for a filter list, the length of the whole body, is enough -/
theorem fuel_le {n : Nat} {enc : Bytes} (h : n ≤ enc.length) (m : Nat) : n ≤ (be16 m ++ enc).length + 1 := by
  rw [List.length_append]
  exact Nat.le_succ_of_le (Nat.le_trans h (Nat.le_add_left _ _))

theorem decodeBody_encode (p : CPkt) (h : WfPkt p) :
    decodeBody (ptypeOf p) (pflagsOf p) (bodyOf p) = .pkt p.normalise := by
  cases p with
  | connect | other => exact h.elim
  | pingreq | disconnect => rfl
  | puback m => exact decodeBody_ack 4 0 m h .puback (fun _ => rfl)
  | pubrec m => exact decodeBody_ack 5 0 m h .pubrec (fun _ => rfl)
  | pubrel m => exact decodeBody_ack 6 2 m h .pubrel (fun _ => rfl)
  | pubcomp m => exact decodeBody_ack 7 0 m h .pubcomp (fun _ => rfl)
  | publish topic payload qos retain dup mid =>
    obtain ⟨_, hhex, hq, hm, _⟩ := h
    exact decodeBody_publish topic payload qos retain dup mid hhex hq hm
  | subscribe mid ts =>
    obtain ⟨hmid, hne, _, _⟩ := h
    have hl := fuel_le (encSubs_length_ge ts) mid.toNat
    unfold decodeBody
    simp only [ptypeOf, bodyOf, CPkt.normalise, u16_be16, be16_drop, countSub_enc ts hne _ hl,
      readSub_enc ts _ hl, mid_cast hmid]
  | unsubscribe mid ts =>
    obtain ⟨hmid, hne, _, _⟩ := h
    have hl := fuel_le (encUnsubs_length_ge ts) mid.toNat
    unfold decodeBody
    simp only [ptypeOf, bodyOf, CPkt.normalise, u16_be16, be16_drop, countUnsub_enc ts hne _ hl,
      readUnsub_enc ts _ hl, mid_cast hmid]

theorem pflagsOf_lt (p : CPkt) (h : WfPkt p) : pflagsOf p < 16 := by
  cases p with
  | publish _ _ qos r d _ => exact (pubFlags_fields qos (Nat.lt_succ_of_le h.2.2.1) r d).1
  | pubrel _ | subscribe _ _ | unsubscribe _ _ => exact (by decide : 2 < 16)
  | _ => exact (by decide : 0 < 16)

theorem bodyOf_le (p : CPkt) (h : WfPkt p) : (bodyOf p).length ≤ maxRemLen := by
  cases p with
  | connect | other => exact h.elim
  | publish topic payload qos retain dup mid => exact h.2.2.2.2
  | subscribe mid ts | unsubscribe mid ts => exact h.2.2.2
  | pingreq | disconnect => exact Nat.zero_le _
  | _ => exact (by decide : 2 ≤ maxRemLen)

theorem encode_eq {p : CPkt} {bs : Bytes} (h : encode p = some bs) :
    WfPkt p ∧ bs = frameOf (ptypeOf p) (pflagsOf p) (bodyOf p) := by
  unfold encode at h
  split at h
  · rename_i hw
    injection h with h
    exact ⟨hw, h.symm⟩
  · cases h

theorem WfWill.qos_le {wl : Will} (h : WfWill wl) : wl.qos ≤ 2 := h.2.2.2.2

theorem WfConnect.size {client user pass : String} {ka : Nat} {will : Option Will}
    (h : WfConnect client user pass ka will) : (connectBody client user pass ka will).length ≤ maxRemLen :=
  h.2.2.2.2.2.2

theorem strBytes_isEmpty (s : String) (h : s ≠ "") : (strBytes s).isEmpty = false := by
  cases hl : strBytes s with
  | cons _ _ => rfl
  | nil => exact absurd (by rw [← str_strBytes s, hl]; rfl) h

theorem strBytes_empty : strBytes "" = [] := by decide

/-- an optional string field (user name, password): written iff the string is non-empty, read iff the flag bit is
    set; `h` says the two agree -/
theorem optField (flag : Prop) [Decidable flag] (s : String) (rest : Bytes) (h : flag ↔ (s != "") = true) :
    (if flag then decodeLP ((if s != "" then encStr s else []) ++ rest)
      else some ([], (if s != "" then encStr s else []) ++ rest)) = some (strBytes s, rest) := by
  by_cases hs : (s != "") = true
  · rw [if_pos (h.mpr hs), if_pos hs, decodeLP_encStr]
  · rw [if_neg (fun hc => hs (h.mp hc)), if_neg hs]
    have : s = "" := by simpa using hs
    rw [this, strBytes_empty]
    rfl

/-- the last field: `connectBody` appends nothing behind it -/
theorem optField_last (flag : Prop) [Decidable flag] (s : String) (h : flag ↔ (s != "") = true) :
    (if flag then decodeLP (if s != "" then encStr s else [])
      else some ([], if s != "" then encStr s else [])) = some (strBytes s, []) := by
  have := optField flag s [] h
  rwa [List.append_nil] at this

theorem decodeBody_connectBody (client user pass : String) (ka : Nat) (will : Option Will)
    (h : WfConnect client user pass ka will) :
    decodeBody 1 0 (connectBody client user pass ka will) = .connect client user pass ka will := by
  obtain ⟨_, _, _, hka0, _, hwill, _⟩ := h
  unfold decodeBody
  cases will with
  | none =>
    obtain ⟨_, hu, hp, hw⟩ := connectFlags_none (user != "") (pass != "")
    simp only [decodeConnect, connectBody, List.nil_append, decodeLP_encStr,
      str_strBytes, u16_be16, be16_drop, if_neg hw, optField _ user _ hu, optField_last _ pass hp,
      if_neg (Nat.ne_of_gt hka0)]
    -- what is left is the test of the protocol name and level, on the literals "MQTT" and 4
    exact if_neg (by decide)
  | some wl =>
    obtain ⟨_, htopic, hhex, _, hqos⟩ : WfWill wl := hwill
    obtain ⟨_, hu, hp, hr, hq, hw⟩ := connectFlags_some (user != "") (pass != "") wl hqos
    simp only [decodeConnect, connectBody, List.append_assoc, decodeLP_encStr,
      str_strBytes, u16_be16, be16_drop, if_pos hw, decodeLP_encBin, optField _ user _ hu,
      optField_last _ pass hp, strBytes_isEmpty wl.topic htopic, Bool.false_eq_true, if_false,
      if_neg (Nat.ne_of_gt hka0), hq, decide_eq_bool hr, hexOf_payloadBytes _ hhex]
    exact if_neg (by decide)

/-! ### body sizes -/

theorem hexChars_length (b : Bytes) : (hexChars b).length = 2 * b.length := by
  induction b with
  | nil => rfl
  | cons x b ih => exact congrArg (· + 2) ih

theorem payloadBytes_length (s : String) (h : (unhex s.toList).isSome) : (payloadBytes s).length = s.length / 2 := by
  obtain ⟨b, hb⟩ := Option.isSome_iff_exists.mp h
  rw [payloadBytes, hb, Option.getD_some, ← String.length_toList, ← hexChars_unhex _ _ hb, hexChars_length,
    Nat.mul_div_cancel_left _ (by decide)]

theorem encSubs_length (ts : List (String × Nat)) :
    (encSubs ts).length = (ts.map (fun tq => tq.1.length + 3)).sum := by
  induction ts with
  | nil => rfl
  | cons tq rest ih =>
    rw [encSubs, List.flatMap_cons, ← encSubs, List.map_cons, List.sum_cons, ← ih, List.length_append,
      List.length_append, encStr_length, Nat.add_comm 2]
    rfl

theorem encUnsubs_length (ts : List String) :
    (encUnsubs ts).length = (ts.map (fun t => t.length + 2)).sum := by
  induction ts with
  | nil => rfl
  | cons t rest ih =>
    rw [encUnsubs, List.flatMap_cons, ← encUnsubs, List.map_cons, List.sum_cons, ← ih, List.length_append,
      encStr_length, Nat.add_comm 2]

/-! ### the encoder produces bytes -/

def AllBytes (b : Bytes) : Prop := ∀ x ∈ b, x < 256

theorem AllBytes.append {a b : Bytes} (ha : AllBytes a) (hb : AllBytes b) : AllBytes (a ++ b) :=
  fun x hx => (List.mem_append.mp hx).elim (ha x) (hb x)

theorem AllBytes.nil : AllBytes [] := fun _ hx => nomatch hx

theorem AllBytes.cons {x : Nat} {b : Bytes} (hx : x < 256) (hb : AllBytes b) : AllBytes (x :: b) :=
  List.forall_mem_cons.mpr ⟨hx, hb⟩

theorem AllBytes.flatMap {α : Type} {enc : α → Bytes} {ts : List α} (h : ∀ a ∈ ts, AllBytes (enc a)) :
    AllBytes (ts.flatMap enc) := by
  intro x hx
  obtain ⟨a, ha, hxa⟩ := List.mem_flatMap.mp hx
  exact h a ha x hxa

theorem allBytes_be16 (n : Nat) (h : n < 65536) : AllBytes (be16 n) :=
  AllBytes.cons (Nat.div_lt_of_lt_mul h) (AllBytes.cons (Nat.mod_lt n (by decide)) AllBytes.nil)

theorem allBytes_mid {m : Int} (h : MidOk m) : AllBytes (be16 m.toNat) :=
  allBytes_be16 _ ((Int.toNat_lt h.1).mpr h.2)

theorem allBytes_encStr (s : String) (h : ValidStr s) : AllBytes (encStr s) :=
  (allBytes_be16 _ h.1).append fun x hx => by
    obtain ⟨c, hc, rfl⟩ := List.mem_map.mp hx
    exact h.2 c hc

theorem allBytes_unhex (l : List Char) (b : Bytes) (h : unhex l = some b) : AllBytes b := by
  fun_induction unhex l generalizing b with
  | case1 => cases h; exact AllBytes.nil
  | case2 => cases h
  | case3 a c rest x y r hr hy hx ih =>
    cases h
    have hx := (hexNibble_inv hx).1
    have hy := (hexNibble_inv hy).1
    exact AllBytes.cons (by omega) (ih r hr)
  | case4 a c rest hno ih => cases h

theorem allBytes_payloadBytes (s : String) : AllBytes (payloadBytes s) := by
  unfold payloadBytes
  cases h : unhex s.toList with
  | none => exact AllBytes.nil
  | some b => exact allBytes_unhex _ _ h

theorem allBytes_encRemLenF (k n : Nat) (hn : n < 128 ^ (k + 1)) : AllBytes (encRemLenF k n) := by
  fun_induction encRemLenF k n with
  | case1 n => exact AllBytes.cons (Nat.lt_trans hn (by decide)) AllBytes.nil
  | case2 k n h => exact AllBytes.cons (Nat.lt_trans h (by decide)) AllBytes.nil
  | case3 k n h ih =>
    rw [Nat.pow_succ'] at hn
    exact AllBytes.cons (Nat.add_lt_add_right (Nat.mod_lt n (by decide)) 128) (ih (Nat.div_lt_of_lt_mul hn))

theorem allBytes_bodyOf (p : CPkt) (h : WfPkt p) : AllBytes (bodyOf p) := by
  cases p with
  | connect | other => exact h.elim
  | pingreq | disconnect => exact AllBytes.nil
  | puback m | pubrec m | pubrel m | pubcomp m => exact allBytes_mid h
  | publish topic payload qos retain dup mid =>
    obtain ⟨ht, _, _, hm, _⟩ := h
    refine (allBytes_encStr _ ht).append (AllBytes.append ?_ (allBytes_payloadBytes _))
    split
    · exact AllBytes.nil
    · rename_i h0
      exact allBytes_mid (hm.resolve_left h0)
  | subscribe mid ts =>
    obtain ⟨hmid, _, hts, _⟩ := h
    exact (allBytes_mid hmid).append (AllBytes.flatMap fun tq htq =>
      (allBytes_encStr _ (hts tq htq).1).append
        (AllBytes.cons (Nat.lt_of_le_of_lt (hts tq htq).2 (by decide)) AllBytes.nil))
  | unsubscribe mid ts =>
    obtain ⟨hmid, _, hts, _⟩ := h
    exact (allBytes_mid hmid).append (AllBytes.flatMap fun t ht => allBytes_encStr _ (hts t ht))

theorem ptypeOf_le (p : CPkt) : ptypeOf p ≤ 14 := by
  cases p <;> simp [ptypeOf]

theorem allBytes_frameOf (t f : Nat) (body : Bytes) (ht : t ≤ 15) (hf : f < 16) (hl : body.length ≤ maxRemLen)
    (hb : AllBytes body) : AllBytes (frameOf t f body) :=
  AllBytes.cons (by omega) ((allBytes_encRemLenF 3 _ (Nat.lt_succ_of_le hl)).append hb)

theorem allBytes_connectBody (client user pass : String) (ka : Nat) (will : Option Will)
    (h : WfConnect client user pass ka will) : AllBytes (connectBody client user pass ka will) := by
  obtain ⟨hc, hu, hp, _, hka, hwill, _⟩ := h
  have hflags : connectFlags (user != "") (pass != "") will < 256 := by
    cases will with
    | none => exact (connectFlags_none _ _).1
    | some wl => exact (connectFlags_some _ _ wl (WfWill.qos_le hwill)).1
  refine (allBytes_encStr "MQTT" (by decide)).append (AllBytes.cons (by decide) (AllBytes.cons hflags
    ((allBytes_be16 _ hka).append ((allBytes_encStr _ hc).append (AllBytes.append ?_ (AllBytes.append ?_ ?_))))))
  · cases will with
    | none => exact AllBytes.nil
    | some wl =>
      obtain ⟨htopic, _, _, hlen, _⟩ : WfWill wl := hwill
      exact (allBytes_encStr _ htopic).append ((allBytes_be16 _ hlen).append (allBytes_payloadBytes _))
  · split
    · exact allBytes_encStr _ hu
    · exact AllBytes.nil
  · split
    · exact allBytes_encStr _ hp
    · exact AllBytes.nil

/-! ### the broker's packet path never touches the connections' byte buffers -/

section Bufs

/-- `bufs` is untouched -/
def BStep (w w' : World) : Prop := w'.bufs = w.bufs

theorem BStep.refl (w : World) : BStep w w := rfl
theorem BStep.trans {a b c : World} (h1 : BStep a b) (h2 : BStep b c) : BStep a c := Eq.trans h2 h1

theorem b_setNode (w : World) (i : Nat) (n : Node) : BStep w (w.setNode i n) := rfl
theorem b_emit (w : World) (c : String) (p : Pkt) : BStep w (w.emit c p) := rfl
theorem b_tick (w : World) : BStep w w.tick.1 := rfl

theorem b_broadcast (w : World) (i : Nat) (ev : Event) : BStep w (w.broadcast i ev) := rfl

theorem b_extendDeadline (w : World) (i : Nat) (sid : String) : BStep w (w.extendDeadline i sid) :=
  extendDeadline_of (P := BStep w) rfl (fun _ _ => rfl)

theorem b_sessDelete (w : World) (i : Nat) (sid : String) : BStep w (w.sessDelete i sid) := by
  unfold World.sessDelete
  simp only []
  split <;> rfl

theorem b_retainStep (w : World) (i : Nat) (p : Pub) : BStep w (retainStep w i p) := by
  unfold retainStep
  split <;> rfl

theorem BStep.of_moves {who : Option String} {w w' : World} (h : Moves who w w') : BStep w w' :=
  h.rel BStep.refl BStep.trans (emit := fun w c p _ => b_emit w c p) (epoch := fun _ => rfl)
    (extendDeadline := b_extendDeadline) (subCreate := fun _ _ _ _ _ _ => rfl) (subDelete := fun _ _ _ _ _ => rfl)
    (retain := b_retainStep) (topics := fun _ _ w i _ _ _ => b_setNode w i _)
    (tables := fun w i _ _ _ _ _ => b_setNode w i _)

theorem b_shutdown (w : World) (i : Nat) (sid : String) : BStep w (w.shutdownSession i sid) :=
  shutdown_rel BStep.refl BStep.trans BStep.of_moves (unreg := fun _ _ _ => rfl) (sessDelete := b_sessDelete) w i sid

theorem clientPacket_bufs (w : World) (conn : String) (pkt : CPkt) : BStep w (w.clientPacket conn pkt) :=
  clientPacket_rel BStep.refl BStep.trans conn (moves := BStep.of_moves) (disc := fun w i _ _ => b_setNode w i _)
    (shutdown := fun w i => b_shutdown w i _) w pkt

theorem failConn_bufs (w : World) (c : String) : BStep w (failConn w c) :=
  failConn_rel BStep.refl BStep.trans c (conns := fun _ _ => rfl) (closed := fun _ => rfl)
    (shutdown := fun w i => b_shutdown w i _) w

theorem connect_bufs (w : World) (c : String) (i : Nat) (client mount : String) (ok : Bool) (ka : Nat)
    (will : Option Will) : BStep w (w.connect c i client mount ok ka will) := by
  have pre : BStep w (AgentD.connPre w c i client mount) :=
    connPre_rel BStep.refl BStep.trans (conns := fun _ _ => rfl) (sessDelete := b_sessDelete) w c i client mount
  cases ok with
  | false => rfl
  | true =>
    rw [AgentD.connect_eq]
    -- each step is named: left to itself, unification unfolds `connPre` before `emit`, `setNode` and `tick`
    split
    · exact (pre.trans (b_tick _)).trans (b_emit _ _ _)
    · exact ((connMid_rel BStep.refl BStep.trans (conns := fun _ _ => rfl) (sessDelete := b_sessDelete)
        (tick := b_tick) (setDist := fun w i _ => b_setNode w i _) (broadcast := b_broadcast) w c i client mount
        will).trans (b_setNode _ _ _)).trans (b_emit _ _ _)

theorem applyDecoded_bufs (w : World) (c : String) (r : DRes) : BStep w (applyDecoded w c r) := by
  unfold applyDecoded
  split
  · rfl
  · split
    · cases r with
      | pkt p => exact clientPacket_bufs w c p
      | connect => exact clientPacket_bufs w c .connect
      | err | panic => exact failConn_bufs w c
    · cases r with
      | connect client user pass ka will =>
        show BStep w (if pass = "ok" then _ else _)
        split <;> exact connect_bufs ..
      | pkt _ | err | panic => exact failConn_bufs w c

end Bufs

/-! ### the connection loop -/

theorem find_noEntry {l : List (String × Bytes)} {c : String} (h : ∀ e ∈ l, e.1 ≠ c) :
    l.find? (fun e => e.1 == c) = none :=
  List.find?_eq_none.mpr fun e he => by simpa using h e he

theorem filter_noEntry (l : List (String × Bytes)) (c : String) : ∀ e ∈ l.filter (fun e => e.1 != c), e.1 ≠ c :=
  fun e he => by simpa using (List.mem_filter.mp he).2

theorem noEntry_setBuf_nil (w : World) (c : String) : ∀ e ∈ (setBuf w c []).bufs, e.1 ≠ c :=
  fun e he => filter_noEntry w.bufs c e (by simpa [setBuf] using he)

theorem bufOf_nil_of_noEntry {w : World} {c : String} (h : ∀ e ∈ w.bufs, e.1 ≠ c) : bufOf w c = [] := by
  rw [bufOf, find_noEntry h]
  rfl

theorem setBuf_nil_of_noEntry {w : World} {c : String} (h : ∀ e ∈ w.bufs, e.1 ≠ c) : setBuf w c [] = w := by
  have e : w.bufs.filter (fun e => e.1 != c) ++ [] = w.bufs := by
    rw [List.append_nil, List.filter_eq_self]
    intro x hx
    simp [h x hx]
  simp only [setBuf, List.isEmpty_nil, if_true]
  rw [e]

/-- the model never stores an empty buffer (`setBuf` drops it), so on worlds that keep that discipline an empty
    buffer means no entry -/
theorem noEntry_of_bufOf_nil {w : World} {c : String} (hinv : ∀ e ∈ w.bufs, e.2 ≠ []) (h : bufOf w c = []) :
    ∀ e ∈ w.bufs, e.1 ≠ c := by
  intro e he hc
  unfold bufOf at h
  cases hf : w.bufs.find? (fun e => e.1 == c) with
  | none =>
    have := List.find?_eq_none.mp hf e he
    simp [hc] at this
  | some x =>
    rw [hf] at h
    simp only [Option.map_some, Option.getD_some] at h
    exact hinv x (List.mem_of_find?_eq_some hf) h

theorem bufOf_setBuf (w : World) (c : String) (b : Bytes) : bufOf (setBuf w c b) c = b := by
  cases b with
  | nil => exact bufOf_nil_of_noEntry (noEntry_setBuf_nil w c)
  | cons x b =>
    simp only [bufOf, setBuf, List.isEmpty_cons, Bool.false_eq_true, if_false, List.find?_append,
      find_noEntry (filter_noEntry _ _)]
    simp

theorem setBuf_setBuf (w : World) (c : String) (b b' : Bytes) : setBuf (setBuf w c b) c b' = setBuf w c b' := by
  simp only [setBuf]
  congr 2
  rw [List.filter_append, List.filter_filter]
  simp only [Bool.and_self]
  split <;> simp

theorem any_of_find {w : World} {c : String} {x : String × Nat} (hf : w.conns.find? (fun e => e.1 == c) = some x) :
    w.conns.any (fun e => e.1 == c) = true :=
  List.any_eq_true.mpr
    ⟨x, List.mem_of_find?_eq_some hf, List.find?_some (p := fun (e : String × Nat) => e.1 == c) hf⟩

theorem any_of_hasSession {w : World} {c : String} (h : hasSession w c = true) :
    w.conns.any (fun e => e.1 == c) = true := by
  unfold hasSession at h
  cases hf : w.conns.find? (fun e => e.1 == c) with
  | none => rw [hf] at h; cases h
  | some x => exact any_of_find hf

/-- on a connection with a session every decoded packet goes to `processSession` -/
theorem applyDecoded_session (w : World) (c : String) (r : DRes) (h : hasSession w c = true) :
    applyDecoded w c r =
      match r with
      | .pkt p => w.clientPacket c p
      | .connect .. => w.clientPacket c .connect
      | .err => failConn w c
      | .panic => failConn w c := by
  unfold applyDecoded
  split
  · rename_i hf
    unfold hasSession at h
    rw [hf] at h
    cases h
  · rw [if_pos h]
    cases r <;> rfl

/-- a CONNECT on an accepted connection without session goes to `setup`, authenticated iff the password is "ok" -/
theorem applyDecoded_connect (w : World) (c c' : String) (i : Nat) (client user pass : String) (ka : Nat)
    (will : Option Will) (hf : w.conns.find? (fun e => e.1 == c) = some (c', i)) (hs : hasSession w c = false) :
    applyDecoded w c (.connect client user pass ka will) =
      w.connect c i client user (decide (pass = "ok")) ka will := by
  unfold applyDecoded
  rw [hf]
  simp only [hs, Bool.false_eq_true, if_false]
  split
  · rename_i h; simp [h]
  · rename_i h; simp [h]

theorem pump_idle (fuel : Nat) (w : World) (c : String) (h : ∀ e ∈ w.bufs, e.1 ≠ c) :
    pump fuel w c = (w, true) := by
  cases fuel with
  | zero => rfl
  | succ fuel =>
    rw [pump]
    simp only [bufOf_nil_of_noEntry h, setBuf_nil_of_noEntry h, takeFrame]
    split
    · rfl
    · split <;> rfl

theorem pump_frame (fuel : Nat) (w : World) (c : String) (t f : Nat) (body rest : Bytes)
    (hany : w.conns.any (fun e => e.1 == c) = true) (hd : w.deaf.contains c = false)
    (hb : bufOf w c = frameOf t f body ++ rest) (hf : f < 16) (hl : body.length ≤ maxRemLen) :
    pump (fuel + 1) w c = pump fuel (applyDecoded (setBuf w c rest) c (decodeBody t f body)) c := by
  rw [pump, hany, hd, hb, takeFrame_frameOf t f body rest hf hl]
  simp only [Bool.not_true, Bool.false_eq_true, if_false]

theorem rawBytes_frame (w : World) (c : String) (t f : Nat) (body : Bytes)
    (hany : w.conns.any (fun e => e.1 == c) = true) (hd : w.deaf.contains c = false) (hb : bufOf w c = [])
    (hf : f < 16) (hl : body.length ≤ maxRemLen) :
    rawBytes w c (frameOf t f body) = (applyDecoded (setBuf w c []) c (decodeBody t f body), true) := by
  unfold rawBytes
  rw [hany, hb]
  simp only [Bool.not_true, Bool.false_eq_true, if_false, List.nil_append]
  rw [pump_frame _ (setBuf w c (frameOf t f body)) c t f body [] hany hd
    ((bufOf_setBuf w c _).trans (List.append_nil _).symm) hf hl, setBuf_setBuf]
  exact pump_idle _ _ c fun e he => noEntry_setBuf_nil w c e (applyDecoded_bufs _ c _ ▸ he)

/-- a packet arriving in two pieces: after the first piece nothing has happened except that the bytes are buffered,
    and the second piece completes exactly what the whole write would have done -/
theorem rawBytes_split (w : World) (c : String) (bs : Bytes) (k : Nat)
    (hany : w.conns.any (fun e => e.1 == c) = true) (hd : w.deaf.contains c = false) (hb : bufOf w c = [])
    (hneed : takeFrame (bs.take k) = .need) :
    rawBytes w c (bs.take k) = (setBuf w c (bs.take k), true) ∧
    rawBytes (setBuf w c (bs.take k)) c (bs.drop k) = rawBytes w c bs := by
  have h1 : (setBuf w c (bs.take k)).conns.any (fun e => e.1 == c) = true := hany
  have h2 : (setBuf w c (bs.take k)).deaf.contains c = false := hd
  constructor
  · unfold rawBytes
    rw [hany, hb]
    simp only [Bool.not_true, Bool.false_eq_true, if_false, List.nil_append]
    rw [pump, h1, h2, bufOf_setBuf, hneed]
    simp
  · unfold rawBytes
    rw [h1, hany, hb, bufOf_setBuf, List.take_append_drop]
    simp only [Bool.not_true, Bool.false_eq_true, if_false, List.nil_append, setBuf_setBuf]

/-! ### the packet path does not look at the packet id of a QoS 0 publish -/

theorem process_normalise (w : World) (i : Nat) (sid : String) (p : CPkt) :
    w.process i sid p.normalise = w.process i sid p := by
  cases p with
  | publish t pl q r d m =>
    simp only [CPkt.normalise]
    by_cases h0 : q = 0
    · subst h0
      unfold World.process
      simp only []
      split
      · rfl
      · simp only [if_true]
    · rw [if_neg h0]
  | _ => rfl

theorem clientPacket_normalise (w : World) (c : String) (p : CPkt) :
    w.clientPacket c p.normalise = w.clientPacket c p := by
  unfold World.clientPacket
  simp only [process_normalise]

end Wasp.Wire.AgentT16
