import Wasp.Model.Broker
/-!
# The steps the broker's publish path is made of

`World.process`, `World.sweep` and everything they call (`publishJob`, `distribute`, `send`, `armAndSend`, the callbacks
of the in-flight table) are finite compositions of eight elementary updates of a world. This file names the loop
bodies of those functions, gives `World.process` its equations (one per packet type), and defines `Moves who w w'`, the
closure of the elementary updates, together with the proof that every function of the publish path is a `Moves`. A relation between a world and its successor (or an invariant) that holds across the
elementary updates therefore holds across the whole path: see `Moves.rel`. What does not fit `Moves` (a side condition
on some step) still need not unfold the functions of the path: see `extendDeadline_of`, `armAndSend_of`, `sendArmed_of`,
`onResolved_of`, `send_of`, `distribute_of`, `process_of` (`distStep_none/skip/go` where the result of `distribute` matters).
For an invariant `P`, `Moves.rel` is used at `Keeps P`. The file begins with the basic facts about worlds, nodes,
sessions and the stored callbacks that every proof about the broker model uses.
-/
namespace Wasp.Broker
open Wasp.Dist Wasp.Topic

theorem foldl_inv {α β : Type} (P : β → Prop) (f : β → α → β) (l : List α) (b : β)
    (h0 : P b) (hs : ∀ b a, a ∈ l → P b → P (f b a)) : P (l.foldl f b) := by
  induction l generalizing b with
  | nil => simpa using h0
  | cons x xs ih =>
    simp only [List.foldl_cons]
    exact ih _ (hs _ _ (by simp) h0) (fun b a ha hb => hs b a (by simp [ha]) hb)

/-! ### worlds and nodes -/

theorem node_setNode (w : World) (i : Nat) (n : Node) (j : Nat) :
    (w.setNode i n).node j = if j = i ∧ i < w.nodes.length then n else w.node j := by
  simp only [World.node, World.setNode, List.getD_eq_getElem?_getD, List.getElem?_set]
  by_cases h : i = j
  · subst h
    by_cases h2 : i < w.nodes.length
    · simp [h2]
    · simp [h2]
  · have : ¬ j = i := fun e => h e.symm
    simp [h, this]

theorem node_setNode_self (w : World) (i : Nat) (n : Node) (hi : i < w.nodes.length) : (w.setNode i n).node i = n := by
  rw [node_setNode, if_pos ⟨rfl, hi⟩]

theorem node_setNode_ne (w : World) (i : Nat) (n : Node) (j : Nat) (h : j ≠ i) : (w.setNode i n).node j = w.node j := by
  rw [node_setNode, if_neg fun e => h e.1]

theorem node_setNode_ge (w : World) (i : Nat) (n : Node) (j : Nat) (h : ¬ i < w.nodes.length) :
    (w.setNode i n).node j = w.node j := by
  rw [node_setNode, if_neg fun e => h e.2]

theorem node_oob (w : World) (i : Nat) (h : w.nodes.length ≤ i) :
    w.node i = { peer := 0, dist := { peer := 0 }, pool := initPool } := by
  simp [World.node, List.getD_eq_getElem?_getD, List.getElem?_eq_none h]

theorem node_congr {w w' : World} (h : w'.nodes = w.nodes) (j : Nat) : w'.node j = w.node j := by
  simp [World.node, h]

@[simp] theorem setNode_length (w : World) (i : Nat) (n : Node) : (w.setNode i n).nodes.length = w.nodes.length := by
  simp [World.setNode]

/-- writing a node onto itself changes nothing, also beyond the last node, where `List.set` does nothing -/
theorem setNode_node (w : World) (i : Nat) : w.setNode i (w.node i) = w := by
  cases w with
  | mk nodes out clock now epoch conns bufs deaf =>
    simp only [World.setNode, World.node, World.mk.injEq, and_true]
    apply List.ext_getElem?
    intro m
    simp only [List.getElem?_set, List.getD_eq_getElem?_getD]
    by_cases h : i = m
    · subst h
      by_cases hi : i < nodes.length
      · simp [hi]
      · simp [hi]
    · simp [h]

/-! ### sessions -/

theorem sess_some {n : Node} {sid : String} {s : Sess} (h : n.sess sid = some s) : s ∈ n.reg ∧ s.id = sid := by
  unfold Node.sess at h
  exact ⟨List.mem_of_find?_eq_some h, by simpa using List.find?_some h⟩

theorem sess_some_id {n : Node} {sid : String} {s : Sess} (h : n.sess sid = some s) : s.id = sid := (sess_some h).2

theorem sess_none {n : Node} {sid : String} (h : n.sess sid = none) : ∀ x ∈ n.reg, x.id ≠ sid := by
  unfold Node.sess at h
  intro x hx
  simpa using List.find?_eq_none.mp h x hx

theorem sess_eq_none_iff (n : Node) (sid : String) : n.sess sid = none ↔ sid ∉ n.reg.map (·.id) := by
  simp only [Node.sess, List.find?_eq_none, List.mem_map, beq_iff_eq]
  constructor
  · rintro h ⟨x, hx, e⟩; exact h x hx e
  · intro h x hx e; exact h ⟨x, hx, e⟩

theorem mem_setSess {n : Node} {s' x : Sess} (hx : x ∈ (n.setSess s').reg) : x = s' ∨ x ∈ n.reg := by
  simp only [Node.setSess, List.mem_map] at hx
  obtain ⟨y, hy, rfl⟩ := hx
  split
  · exact Or.inl rfl
  · exact Or.inr hy

theorem setSess_ids (n : Node) (s' : Sess) : (n.setSess s').reg.map (·.id) = n.reg.map (·.id) := by
  simp only [Node.setSess, List.map_map]
  apply List.map_congr_left
  intro x _
  simp only [Function.comp]
  split
  · rename_i h; exact (beq_iff_eq.mp h).symm
  · rfl

theorem setSess_sess (n : Node) (s' : Sess) (x : String) :
    (n.setSess s').sess x = (n.sess x).map (fun y => if y.id == s'.id then s' else y) := by
  show (n.reg.map _).find? _ = _
  rw [List.find?_map]
  have hcomp : ((fun s : Sess => s.id == x) ∘ fun y => if (y.id == s'.id) = true then s' else y) = fun s => s.id == x := by
    funext y
    simp only [Function.comp]
    split
    · rename_i h; rw [beq_iff_eq.mp h]
    · rfl
  rw [hcomp]
  rfl

theorem sess_setSess_fwd (n : Node) (s' : Sess) (x : String) (r : Sess) (h : n.sess x = some r) :
    (n.setSess s').sess x = some (if r.id == s'.id then s' else r) := by
  rw [setSess_sess, h]
  rfl

theorem sess_setSess_self (n : Node) (s : Sess) (h : (n.sess s.id).isSome) : (n.setSess s).sess s.id = some s := by
  obtain ⟨r, hr⟩ := Option.isSome_iff_exists.mp h
  rw [sess_setSess_fwd n s _ r hr, sess_some_id hr, beq_self_eq_true, if_pos rfl]

theorem sess_setSess_ne (n : Node) (s' : Sess) (r : String) (h : r ≠ s'.id) : (n.setSess s').sess r = n.sess r := by
  rw [setSess_sess]
  cases hr : n.sess r with
  | none => rfl
  | some y =>
    have : (y.id == s'.id) = false := by rw [sess_some_id hr]; simpa using h
    simp only [Option.map_some, this, Bool.false_eq_true, if_false]

theorem extendDeadline_of {P : World → Prop} {w : World} {i : Nat} {sid : String} (h0 : P w)
    (hs : ∀ s, (w.node i).sess sid = some s →
      P (w.setNode i ((w.node i).setSess { s with deadline := w.now + 2 * s.keepalive * 1000 }))) :
    P (w.extendDeadline i sid) := by
  unfold World.extendDeadline
  simp only []
  split
  · exact hs _ ‹_›
  · exact h0

theorem extendDeadline_out (w : World) (i : Nat) (sid : String) : (w.extendDeadline i sid).out = w.out :=
  extendDeadline_of (P := fun w' => w'.out = w.out) rfl (fun _ _ => rfl)

theorem S_inj {a b : String} (h : "S" ++ a = "S" ++ b) : a = b := (String.append_right_inj "S").mp h

/-! ### the stored callbacks and the message log -/

theorem storedFind_mem {k : Ack.Key} {st : Stored} {l : List (Ack.Key × Stored)}
    (h : storedFind k l = some st) : (k, st) ∈ l := by
  induction l with
  | nil => simp [storedFind] at h
  | cons x rest ih =>
    obtain ⟨k', s⟩ := x
    simp only [storedFind] at h
    split at h
    · rename_i e; cases h; subst e; exact List.mem_cons_self
    · exact List.mem_cons_of_mem _ (ih h)

theorem storedFind_none_keys {k : Ack.Key} {l : List (Ack.Key × Stored)} (h : storedFind k l = none) :
    ∀ e ∈ l, e.1 ≠ k := by
  induction l with
  | nil => intro e he; cases he
  | cons x rest ih =>
    obtain ⟨k', s⟩ := x
    simp only [storedFind] at h
    split at h
    · cases h
    · rename_i hk
      intro e he
      rcases List.mem_cons.mp he with rfl | he
      · exact hk
      · exact ih h e he

theorem mem_storedErase {k : Ack.Key} {e : Ack.Key × Stored} {l : List (Ack.Key × Stored)} :
    e ∈ storedErase k l ↔ e ∈ l ∧ e.1 ≠ k := by
  simp [storedErase]

theorem storedErase_of_none {k : Ack.Key} {l : List (Ack.Key × Stored)} (h : storedFind k l = none) :
    storedErase k l = l := by
  rw [storedErase, List.filter_eq_self]
  intro e he
  simpa using storedFind_none_keys h e he

theorem storedErase_snoc_self {k : Ack.Key} {st : Stored} {l : List (Ack.Key × Stored)} (h : storedFind k l = none) :
    storedErase k (l ++ [(k, st)]) = l := by
  have := storedErase_of_none h
  simp only [storedErase] at this ⊢
  simp [List.filter_append, this]

theorem appendLog_fst (n : Node) (p : Pub) :
    (n.appendLog p).1 = { n with logCalls := n.logCalls + 1, log := (n.appendLog p).1.log } := by
  unfold Node.appendLog
  simp only []
  split <;> rfl

theorem appendLog_reg (n : Node) (p : Pub) : (n.appendLog p).1.reg = n.reg := by rw [appendLog_fst]

theorem appendLog_dist (n : Node) (p : Pub) : (n.appendLog p).1.dist = n.dist := by rw [appendLog_fst]

theorem appendLog_stored (n : Node) (p : Pub) : (n.appendLog p).1.stored = n.stored := by rw [appendLog_fst]

theorem appendLog_of_accepts (n : Node) (p : Pub) (h : (n.logFailAll || n.logFailAt.contains n.logCalls) = false) :
    n.appendLog p = ({ n with logCalls := n.logCalls + 1, log := n.log ++ [p] }, true) := by
  simp only [Node.appendLog, h, Bool.false_eq_true, if_false]

theorem appendLog_of_rejects (n : Node) (p : Pub) (h : (n.logFailAll || n.logFailAt.contains n.logCalls) = true) :
    n.appendLog p = ({ n with logCalls := n.logCalls + 1 }, false) := by
  simp only [Node.appendLog, h, if_true]

/-! ### the loop bodies -/

/-- retain handling of the publish worker -/
def retainStep (w : World) (i : Nat) (p : Pub) : World :=
  if p.retain then
    let (w, t) := w.tick
    let n := w.node i
    let (d, ev) := if p.payload = "" then topicDelete n.dist t p.topic else topicSet n.dist t p.topic p.payload p.qos true p.dup
    (w.setNode i { n with dist := d }).broadcast i ev
  else w

theorem publishJob_eq (w : World) (i : Nat) (p : Pub) (onOk : World → World) :
    w.publishJob i p onOk =
      if ((retainStep w i p).distribute i { p with retain := false }).2
      then onOk ((retainStep w i p).distribute i { p with retain := false }).1
      else ((retainStep w i p).distribute i { p with retain := false }).1 := rfl

/-- `Distribute` for one destination peer -/
def distStep (i : Nat) (p : Pub) (acc : World × Bool) (peer : Nat) : World × Bool :=
  let (w, ok) := acc
  match nodeIndexOfPeer w peer with
  | none => (w, false)
  | some j =>
    let nj := w.node j
    if j ≠ i ∧ (nj.failed ∨ nj.unreachable) then (w, false)
    else
      let (nj', stored) := nj.appendLog p
      let w := w.setNode j nj'
      if stored then (w.deliverLocal j p, ok) else (w, false)

theorem distribute_eq (w : World) (i : Nat) (p : Pub) :
    w.distribute i p =
      (dedupNat ((subByPattern (w.node i).dist p.topic).map (·.peer))).foldl (distStep i p) (w, true) := rfl

/-- one resolution as `ackFrom` handles it -/
def ackStep (i : Nat) (w : World) (ev : Ack.Resolved) : World :=
  match storedFind ev.key (w.node i).stored with
  | none => w
  | some st =>
    let w := w.setNode i { w.node i with stored := storedErase ev.key (w.node i).stored }
    match st with
    | .inbound _ conn pub imid => w.publishJob i pub (fun w => w.emit conn (.pubcomp imid))
    | _ => w.onResolved i ev st

theorem ackFrom_eq (w : World) (i : Nat) (pfx : String) (kind : Ack.PType) (mid : Int) :
    w.ackFrom i pfx kind mid =
      (Ack.ack (w.node i).acks pfx kind true mid).2.2.foldl (ackStep i)
        (w.setNode i { w.node i with acks := (Ack.ack (w.node i).acks pfx kind true mid).1 }) := rfl

/-- one resolution as `sweep` handles it -/
def resolveStep (i : Nat) (w : World) (ev : Ack.Resolved) : World :=
  match storedFind ev.key (w.node i).stored with
  | none => w
  | some st => (w.setNode i { w.node i with stored := storedErase ev.key (w.node i).stored }).onResolved i ev st

theorem sweep_eq (w : World) (i : Nat) :
    w.sweep i =
      (Ack.expire (w.node i).acks (((w.epoch : Int) + 1) * 10000)).2.foldl (resolveStep i)
        (({ w with epoch := w.epoch + 1 } : World).setNode i
          { w.node i with acks := (Ack.expire (w.node i).acks (((w.epoch : Int) + 1) * 10000)).1 }) := rfl

/-- the store-and-remember step of SUBSCRIBE for one filter -/
def subStep (w : World) (i : Nat) (sid : String) (tq : String × Nat) : World :=
  let w := w.subCreate i sid tq.1 tq.2
  let n := w.node i
  match n.sess sid with
  | some s' => if s'.topics.contains tq.1 then w else w.setNode i (n.setSess { s' with topics := s'.topics ++ [tq.1] })
  | none => w

/-- the retained messages under one new filter are sent to the subscriber -/
def replayStep (w : World) (i : Nat) (sid : String) (tq : String × Nat) : World :=
  (topicGet (w.node i).dist tq.1).foldl (fun w r => w.send i [(sid, tq.2)] ⟨r.topic, r.payload, r.qos, r.retain, r.dup⟩) w

/-- the delete-and-forget step of UNSUBSCRIBE for one filter -/
def unsubStep (w : World) (i : Nat) (sid pt : String) : World :=
  let w := w.subDelete i sid pt
  let n := w.node i
  match n.sess sid with
  | some s' => w.setNode i (n.setSess { s' with topics := s'.topics.filter (· != pt) })
  | none => w

/-! ### `armAndSend` -/

/-- what `armAndSend` takes from an exchange: its session, the kind and QoS of the in-flight entry, the identifier, and
    the packet it writes; nothing for a client's own QoS 2 publish, which is not armed there -/
def Stored.arm : Stored → Option (String × Ack.PType × Nat × Int × Pkt)
  | .out1 sid t pl r d mid => some (sid, .publish, 1, mid, .publish t pl 1 r d mid)
  | .out2 sid t pl r d mid => some (sid, .publish, 2, mid, .publish t pl 2 r d mid)
  | .rel sid mid => some (sid, .pubrel, 0, mid, .pubrel mid)
  | .inbound .. => none

theorem Stored.arm_ne_closed {st : Stored} {sid : String} {kind : Ack.PType} {qos : Nat} {mid : Int} {pk : Pkt}
    (h : st.arm = some (sid, kind, qos, mid, pk)) : pk ≠ .closed := by
  cases st with
  | inbound => cases h
  | out1 => cases h; exact Pkt.noConfusion
  | out2 => cases h; exact Pkt.noConfusion
  | rel => cases h; exact Pkt.noConfusion

/-- `armAndSend` does nothing (no such session, or not an exchange it arms), or extends the read deadline of the session
    and then either stops there (the insertion of a delivery failed), or only writes the packet (the insertion of a
    PUBREL failed), or files the exchange and writes the packet. What holds in the four cases holds of the result. -/
theorem armAndSend_of {P : World → Prop} {w : World} {i : Nat} {st : Stored} (h0 : P w)
    (hd : ∀ sid, P (w.extendDeadline i sid))
    (hw : ∀ sid kind qos mid pk s, st.arm = some (sid, kind, qos, mid, pk) → (w.node i).sess sid = some s →
      P ((w.extendDeadline i sid).emit s.conn pk))
    (ha : ∀ sid kind qos mid pk s, st.arm = some (sid, kind, qos, mid, pk) → (w.node i).sess sid = some s →
      (Ack.insert ((w.extendDeadline i sid).node i).acks sid kind qos mid (ackDeadline (w.extendDeadline i sid))).2 = .ok →
      P (((w.extendDeadline i sid).setNode i { (w.extendDeadline i sid).node i with
          acks := (Ack.insert ((w.extendDeadline i sid).node i).acks sid kind qos mid (ackDeadline (w.extendDeadline i sid))).1,
          stored := ((w.extendDeadline i sid).node i).stored ++ [(Ack.hashKey sid mid, st)] }).emit s.conn pk)) :
    P (w.armAndSend i st) := by
  -- a delivery (`out1`, `out2`): without the entry in the in-flight table nothing is written
  have deliver : ∀ sid kind qos mid pk, st.arm = some (sid, kind, qos, mid, pk) →
      P (match (w.node i).sess sid with
        | none => w
        | some s =>
          if (Ack.insert ((w.extendDeadline i sid).node i).acks sid kind qos mid (ackDeadline (w.extendDeadline i sid))).2 = .ok
          then ((w.extendDeadline i sid).setNode i { (w.extendDeadline i sid).node i with
            acks := (Ack.insert ((w.extendDeadline i sid).node i).acks sid kind qos mid (ackDeadline (w.extendDeadline i sid))).1,
            stored := ((w.extendDeadline i sid).node i).stored ++ [(Ack.hashKey sid mid, st)] }).emit s.conn pk
          else w.extendDeadline i sid) := by
    intro sid kind qos mid pk harm
    split
    · exact h0
    · rename_i s hs
      split
      · rename_i hok; exact ha sid kind qos mid pk s harm hs hok
      · exact hd sid
  cases st with
  | out1 sid topic payload retain dup mid => exact deliver sid .publish 1 mid _ rfl
  | out2 sid topic payload retain dup mid => exact deliver sid .publish 2 mid _ rfl
  | rel sid mid =>
    simp only [World.armAndSend]
    split
    · exact h0
    · rename_i s hs
      split
      · rename_i hok; exact ha sid _ _ mid _ s rfl hs hok
      · rw [setNode_node]
        exact hw sid _ _ mid _ s rfl hs
  | inbound => exact h0

theorem sendArmed_of {P : World → Prop} {w : World} {i : Nat} {st : Stored} {sid : String} {mid : Int}
    (arm : P (w.armAndSend i st))
    (put : ((w.armAndSend i st).node i).acks.msgs.length = (w.node i).acks.msgs.length → P ((w.armAndSend i st).poolPut i mid)) :
    P (w.sendArmed i st sid mid) := by
  unfold World.sendArmed
  simp only []
  split
  · rename_i hc
    exact put hc.1
  · exact arm

/-- The callback of a resolved exchange `st` does nothing (an inbound publish), arms an exchange with the same session and
    identifier again (`st` itself, or its PUBREL), or gives the identifier back. -/
theorem onResolved_of {P : World → Prop} {w : World} {i : Nat} {ev : Ack.Resolved} {st : Stored} (h0 : P w)
    (arm : ∀ st' sid kind qos mid pk kind' qos' pk', st.arm = some (sid, kind, qos, mid, pk) →
      st'.arm = some (sid, kind', qos', mid, pk') → P (w.armAndSend i st'))
    (put : ∀ sid kind qos mid pk, st.arm = some (sid, kind, qos, mid, pk) → P (w.poolPut i mid)) :
    P (w.onResolved i ev st) := by
  cases st with
  | out1 sid t pl r d mid =>
    simp only [World.onResolved]
    split
    · exact arm _ sid _ _ mid _ _ _ _ rfl rfl
    · exact put sid _ _ mid _ rfl
  | out2 sid t pl r d mid =>
    simp only [World.onResolved]
    split
    · exact put sid _ _ mid _ rfl
    · split
      · exact arm _ sid _ _ mid _ _ _ _ rfl rfl
      · exact arm (.rel sid mid) sid _ _ mid _ _ _ _ rfl rfl
  | rel sid mid =>
    simp only [World.onResolved]
    split
    · exact arm _ sid _ _ mid _ _ _ _ rfl rfl
    · exact put sid _ _ mid _ rfl
  | inbound => exact h0

/-! ### `distStep`, case by case; `send` and `distribute` as loops -/

section distStep
variable {i : Nat} {p : Pub} {w : World} {ok : Bool} {x j : Nat}

theorem distStep_none (h : nodeIndexOfPeer w x = none) : distStep i p (w, ok) x = (w, false) := by
  simp only [distStep, h]

theorem distStep_skip (h : nodeIndexOfPeer w x = some j) (hc : j ≠ i ∧ ((w.node j).failed ∨ (w.node j).unreachable)) :
    distStep i p (w, ok) x = (w, false) := by
  simp only [distStep, h]
  exact if_pos hc

theorem distStep_go (h : nodeIndexOfPeer w x = some j) (hc : ¬ (j ≠ i ∧ ((w.node j).failed ∨ (w.node j).unreachable))) :
    distStep i p (w, ok) x =
      if ((w.node j).appendLog p).2 = true then ((w.setNode j ((w.node j).appendLog p).1).deliverLocal j p, ok)
      else (w.setNode j ((w.node j).appendLog p).1, false) := by
  simp only [distStep, h]
  exact if_neg hc

end distStep

/-- what holds across the two ways in which `send` serves one recipient (a QoS 0 packet is written; an identifier is
    drawn and a QoS 1/2 exchange is armed) holds across `send` -/
theorem send_of {P : World → Prop} {i : Nat} {p : Pub}
    (h0 : ∀ (w : World) sid s, (w.node i).sess sid = some s → P w →
      P ((w.extendDeadline i sid).emit s.conn (.publish (trimMountPoint s.mount p.topic) p.payload 0 p.retain p.dup 0)))
    (h12 : ∀ (w : World) sid (qos : Int) s, (w.node i).sess sid = some s → ¬ (IdPool.get (w.node i).pool).2 ≤ 0 → P w →
      P ((w.setNode i { w.node i with pool := (IdPool.get (w.node i).pool).1 }).sendArmed i
        (if qos = 1 then Stored.out1 sid (trimMountPoint s.mount p.topic) p.payload p.retain p.dup (IdPool.get (w.node i).pool).2
         else Stored.out2 sid (trimMountPoint s.mount p.topic) p.payload p.retain p.dup (IdPool.get (w.node i).pool).2)
        sid (IdPool.get (w.node i).pool).2))
    (rcpt : List (String × Int)) : ∀ w : World, P w → P (w.send i rcpt p) := by
  induction rcpt with
  | nil => intro w h; exact h
  | cons hd rest ih =>
    intro w h
    obtain ⟨sid, qos⟩ := hd
    unfold World.send
    simp only []
    split
    · exact ih w h
    · rename_i s hs
      split
      · exact ih _ (h0 w sid s hs h)
      · split
        · split
          · exact h
          · rename_i hpos
            exact ih _ (h12 w sid qos s hs hpos h)
        · exact ih w h

theorem distribute_of {P : World → Prop} (hlog : ∀ w j p, P w → P (w.setNode j ((w.node j).appendLog p).1))
    (hdl : ∀ w j p, P w → P (w.deliverLocal j p)) {w : World} (h : P w) (i : Nat) (p : Pub) :
    P (w.distribute i p).1 := by
  rw [distribute_eq]
  refine foldl_inv (fun acc : World × Bool => P acc.1) _ _ _ h (fun acc peer _ h => ?_)
  obtain ⟨w', ok⟩ := acc
  unfold distStep
  simp only
  split
  · exact h
  · split
    · exact h
    · -- `(a, b).1` is reduced to `a` first: left to the unifier, it unfolds `deliverLocal` instead
      split
      · dsimp only
        exact hdl _ _ _ (hlog _ _ _ h)
      · exact hlog _ _ _ h

/-! ### `process`, packet by packet -/

section process
variable {w : World} {i : Nat} {sid : String} {s : Sess}

theorem process_none (h : (w.node i).sess sid = none) (pkt : CPkt) : w.process i sid pkt = (w, .error) := by
  simp only [World.process, h]

theorem process_connect (hs : (w.node i).sess sid = some s) : w.process i sid .connect = (w, .error) := by
  simp only [World.process, hs]

theorem process_publish (hs : (w.node i).sess sid = some s) (topic payload : String) (qos : Nat) (retain dup : Bool)
    (mid : Int) :
    w.process i sid (.publish topic payload qos retain dup mid) =
      if qos = 0 then (w.publishJob i ⟨prefixMountPoint s.mount topic, payload, qos, retain, dup⟩ id, .ok)
      else if qos = 1 then
        (w.publishJob i ⟨prefixMountPoint s.mount topic, payload, qos, retain, dup⟩ (fun w => w.emit s.conn (.puback mid)), .ok)
      else if qos = 2 then
        if (Ack.insert (w.node i).acks (sid ++ "/in") .pubrec 0 mid (ackDeadline w)).2 = .ok then
          ((w.setNode i { w.node i with
              acks := (Ack.insert (w.node i).acks (sid ++ "/in") .pubrec 0 mid (ackDeadline w)).1,
              stored := (w.node i).stored ++ [(Ack.hashKey (sid ++ "/in") mid,
                .inbound sid s.conn ⟨prefixMountPoint s.mount topic, payload, qos, retain, dup⟩ mid)] }).emit
            s.conn (.pubrec mid), .ok)
        else (w, .error)
      else (w, .ok) := by
  simp only [World.process, hs]

theorem process_subscribe (hs : (w.node i).sess sid = some s) (mid : Int) (topics : List (String × Nat)) :
    w.process i sid (.subscribe mid topics) =
      ((topics.map (fun tq => (prefixMountPoint s.mount tq.1, tq.2))).foldl (replayStep · i sid)
        (((topics.map (fun tq => (prefixMountPoint s.mount tq.1, tq.2))).foldl (subStep · i sid) w).emit s.conn
          (.suback mid (topics.map (·.2)))), .ok) := by
  simp only [World.process, hs]
  rfl

theorem process_unsubscribe (hs : (w.node i).sess sid = some s) (mid : Int) (topics : List String) :
    w.process i sid (.unsubscribe mid topics) =
      ((topics.foldl (fun w t => unsubStep w i sid (prefixMountPoint s.mount t)) w).emit s.conn (.unsuback mid), .ok) := by
  simp only [World.process, hs]
  rfl

theorem process_puback (hs : (w.node i).sess sid = some s) (mid : Int) :
    w.process i sid (.puback mid) = (w.ackFrom i sid .puback mid, .ok) := by
  simp only [World.process, hs]

theorem process_pubrec (hs : (w.node i).sess sid = some s) (mid : Int) :
    w.process i sid (.pubrec mid) = (w.ackFrom i sid .pubrec mid, .ok) := by
  simp only [World.process, hs]

theorem process_pubcomp (hs : (w.node i).sess sid = some s) (mid : Int) :
    w.process i sid (.pubcomp mid) = (w.ackFrom i sid .pubcomp mid, .ok) := by
  simp only [World.process, hs]

theorem process_pubrel (hs : (w.node i).sess sid = some s) (mid : Int) :
    w.process i sid (.pubrel mid) = (w.ackFrom i (sid ++ "/in") .pubrel mid, .ok) := by
  simp only [World.process, hs]

/-- PINGREQ is answered iff the first live record under the client identifier is this session's -/
theorem process_pingreq (hs : (w.node i).sess sid = some s) :
    w.process i sid .pingreq =
      if ((sessByClientID (w.node i).dist s.mount s.client).head?.map (·.id)) = some sid
      then (w.emit s.conn .pingresp, .ok) else (w, .disconnected) := by
  simp only [World.process, hs]
  cases sessByClientID (w.node i).dist s.mount s.client with
  | nil => simp
  | cons md rest => cases rest <;> simp

theorem process_disconnect (hs : (w.node i).sess sid = some s) : w.process i sid .disconnect = (w, .disconnected) := by
  simp only [World.process, hs]

theorem process_other (hs : (w.node i).sess sid = some s) : w.process i sid .other = (w, .ok) := by
  simp only [World.process, hs]

/-- What holds after every outcome of `process` holds of its result. About the given `w`: `h` (nothing happens), `pub`
    (a publish job, with a callback `onOk` across which `P` passes), `inb` (an inbound QoS 2 publish is filed: the world
    BEFORE the PUBREC is written, which `emit` then covers), `ack` (an acknowledgement). About any world `w'` on the way:
    `emit` (a packet other than `closed` is written), `sub`, `replay`, `unsub` (one step of SUBSCRIBE / UNSUBSCRIBE). -/
theorem process_of {P : World → Prop} (h : P w) (emit : ∀ w' c p, p ≠ Pkt.closed → P w' → P (w'.emit c p))
    (pub : ∀ s topic payload qos retain dup (onOk : World → World), (w.node i).sess sid = some s →
      (∀ w', P w' → P (onOk w')) → P (w.publishJob i ⟨prefixMountPoint s.mount topic, payload, qos, retain, dup⟩ onOk))
    (inb : ∀ s topic payload qos retain dup mid, (w.node i).sess sid = some s →
      (Ack.insert (w.node i).acks (sid ++ "/in") .pubrec 0 mid (ackDeadline w)).2 = .ok →
      P (w.setNode i { w.node i with
        acks := (Ack.insert (w.node i).acks (sid ++ "/in") .pubrec 0 mid (ackDeadline w)).1,
        stored := (w.node i).stored ++ [(Ack.hashKey (sid ++ "/in") mid,
          .inbound sid s.conn ⟨prefixMountPoint s.mount topic, payload, qos, retain, dup⟩ mid)] }))
    (sub : ∀ w' tq, P w' → P (subStep w' i sid tq)) (replay : ∀ w' tq, P w' → P (replayStep w' i sid tq))
    (unsub : ∀ w' pt, P w' → P (unsubStep w' i sid pt)) (ack : ∀ pfx kind mid, P (w.ackFrom i pfx kind mid))
    (pkt : CPkt) : P (w.process i sid pkt).1 := by
  cases hs : (w.node i).sess sid with
  | none => rw [process_none hs]; exact h
  | some s =>
    cases pkt with
    | connect => rw [process_connect hs]; exact h
    | publish topic payload qos retain dup mid =>
      rw [process_publish hs]
      -- `(a, r).1` is reduced to `a` first: left to the unifier, it unfolds `publishJob` instead
      split
      · dsimp only
        exact pub s _ _ _ _ _ _ hs (fun _ h => h)
      · split
        · dsimp only
          exact pub s _ _ _ _ _ _ hs (fun _ h => emit _ _ _ Pkt.noConfusion h)
        · split
          · split
            · rename_i hok
              exact emit _ _ _ Pkt.noConfusion (inb s _ _ _ _ _ mid hs hok)
            · exact h
          · exact h
    | subscribe mid topics =>
      rw [process_subscribe hs]
      exact foldl_inv P _ _ _ (emit _ _ _ Pkt.noConfusion (foldl_inv P _ _ _ h (fun b a _ hb => sub b a hb)))
        (fun b a _ hb => replay b a hb)
    | unsubscribe mid topics =>
      rw [process_unsubscribe hs]
      exact emit _ _ _ Pkt.noConfusion (foldl_inv P _ _ _ h (fun b a _ hb => unsub b _ hb))
    | puback mid => rw [process_puback hs]; exact ack _ _ mid
    | pubrec mid => rw [process_pubrec hs]; exact ack _ _ mid
    | pubrel mid => rw [process_pubrel hs]; exact ack _ _ mid
    | pubcomp mid => rw [process_pubcomp hs]; exact ack _ _ mid
    | pingreq =>
      rw [process_pingreq hs]
      split
      · exact emit _ _ _ Pkt.noConfusion h
      · exact h
    | disconnect => rw [process_disconnect hs]; exact h
    | other => rw [process_other hs]; exact h

end process

/-! ### the elementary updates and their closure -/

/-- `w'` arises from `w` by the elementary updates of the publish path: a packet other than `closed` is written, a read
    deadline is extended, a message is retained, a sweep begins, and — as one kind of step — the node-private tables
    (in-flight entries, their callbacks, the identifier pool, the message log) are rewritten. The index says for which
    session, if any, subscriptions may be created and deleted and the filter list may change: `Moves none` is what a
    function does that acts for no session in particular (`sweep`, `ackFrom`, `send`). The registry apart from deadlines
    and filter lists, the session records, connections, byte buffers and timers are out of reach.

    `tables` is deliberately coarse: the four tables change together in `armAndSend`, `onResolved` and `ackFrom`, and
    most relations ignore all four. A relation or invariant that looks into them (the frame of BrokerA, `WRel` of BrokerB,
    the pool invariant of BrokerT3, `KInv` of BrokerT10, the stores of BrokerT13) cannot give `tables` for arbitrary arguments and goes through `send_of`, `distribute_of`,
    `armAndSend_of` and `process_of` instead. `retain` and `epoch` are updates of their own
    because `publishJob` and `sweep` do them outside every table.

    A new constructor is a new case in `Moves.lift` and `Moves.rel` here and a new hypothesis to every `of_moves` lemma
    (`SameReg`, `Quiet`, `Stay`, `DStep`, `XStep`, `BStep`, `RInv`, `PInv`, `Tx`), nothing else. -/
inductive Moves : Option String → World → World → Prop
  | refl {who} (w : World) : Moves who w w
  | trans {who} {a b c : World} : Moves who a b → Moves who b c → Moves who a c
  | emit {who} (w : World) (c : String) (p : Pkt) : p ≠ .closed → Moves who w (w.emit c p)
  | epoch {who} (w : World) : Moves who w { w with epoch := w.epoch + 1 }
  | extendDeadline {who} (w : World) (i : Nat) (x : String) : Moves who w (w.extendDeadline i x)
  | retain {who} (w : World) (i : Nat) (p : Pub) : Moves who w (retainStep w i p)
  | tables {who} (w : World) (i : Nat) (a : Ack.Queue) (st : List (Ack.Key × Stored)) (p : IdPool.Pool) (l : List Pub)
      (c : Nat) : Moves who w (w.setNode i { w.node i with acks := a, stored := st, pool := p, log := l, logCalls := c })
  | subCreate {sid} (w : World) (i : Nat) (pat : String) (qos : Int) : Moves (some sid) w (w.subCreate i sid pat qos)
  | subDelete {sid} (w : World) (i : Nat) (pat : String) : Moves (some sid) w (w.subDelete i sid pat)
  | topics {sid} (w : World) (i : Nat) (s : Sess) (l : List String) : (w.node i).sess sid = some s →
      Moves (some sid) w (w.setNode i ((w.node i).setSess { s with topics := l }))

/-- `P` passes from `w` to `w'`: the relation through which `Moves.rel` and the `_rel` lemmas of
    Wasp/Proofs/BrokerRel.lean serve an invariant -/
def Keeps (P : World → Prop) (w w' : World) : Prop := P w → P w'

theorem Keeps.refl {P : World → Prop} (w : World) : Keeps P w w := id

theorem Keeps.trans {P : World → Prop} {a b c : World} (h1 : Keeps P a b) (h2 : Keeps P b c) : Keeps P a c :=
  fun h => h2 (h1 h)

namespace Moves

/-- what acts for no session may be said of any -/
theorem lift {who : Option String} {w w' : World} (h : Moves none w w') : Moves who w w' := by
  generalize hn : (none : Option String) = o at h
  induction h with
  | refl w => exact .refl w
  | trans _ _ h1 h2 => exact (h1 hn).trans (h2 hn)
  | emit w c p hp => exact .emit w c p hp
  | epoch w => exact .epoch w
  | extendDeadline w i x => exact .extendDeadline w i x
  | retain w i p => exact .retain w i p
  | tables w i a st p l c => exact .tables w i a st p l c
  | subCreate | subDelete | topics => cases hn

theorem foldl {who : Option String} {α : Type} {f : World → α → World} (hf : ∀ w a, Moves who w (f w a)) (l : List α)
    (w : World) : Moves who w (l.foldl f w) :=
  foldl_inv (Moves who w) f l w (.refl w) (fun b a _ hb => hb.trans (hf b a))

theorem rel {who : Option String} {R : World → World → Prop} (refl : ∀ w, R w w)
    (trans : ∀ {a b c}, R a b → R b c → R a c)
    (emit : ∀ w c p, p ≠ Pkt.closed → R w (w.emit c p))
    (epoch : ∀ w : World, R w { w with epoch := w.epoch + 1 })
    (extendDeadline : ∀ w i x, R w (w.extendDeadline i x))
    (subCreate : ∀ sid, who = some sid → ∀ w i pat qos, R w (w.subCreate i sid pat qos))
    (subDelete : ∀ sid, who = some sid → ∀ w i pat, R w (w.subDelete i sid pat))
    (retain : ∀ w i p, R w (retainStep w i p))
    (topics : ∀ sid, who = some sid → ∀ (w : World) i s l, (w.node i).sess sid = some s →
      R w (w.setNode i ((w.node i).setSess { s with topics := l })))
    (tables : ∀ (w : World) i a st p l c,
      R w (w.setNode i { w.node i with acks := a, stored := st, pool := p, log := l, logCalls := c }))
    {w w' : World} (h : Moves who w w') : R w w' := by
  induction h with
  | refl w => exact refl w
  | trans _ _ h1 h2 => exact trans (h1 subCreate subDelete topics) (h2 subCreate subDelete topics)
  | emit w c p hp => exact emit w c p hp
  | epoch w => exact epoch w
  | extendDeadline w i x => exact extendDeadline w i x
  | retain w i p => exact retain w i p
  | tables w i a st p l c => exact tables w i a st p l c
  | subCreate w i pat qos => exact subCreate _ rfl w i pat qos
  | subDelete w i pat => exact subDelete _ rfl w i pat
  | topics w i s l hs => exact topics _ rfl w i s l hs

end Moves

theorem moves_poolPut (w : World) (i : Nat) (mid : Int) : Moves none w (w.poolPut i mid) :=
  .tables w i _ _ _ _ _

theorem moves_armAndSend (w : World) (i : Nat) (st : Stored) : Moves none w (w.armAndSend i st) :=
  armAndSend_of (P := Moves none w) (.refl w) (.extendDeadline w i)
    (fun r _ _ _ _ _ ha _ => (Moves.extendDeadline w i r).trans (.emit _ _ _ (Stored.arm_ne_closed ha)))
    (fun r _ _ _ _ _ ha _ _ =>
      (Moves.extendDeadline w i r).trans ((Moves.tables _ i _ _ _ _ _).trans (.emit _ _ _ (Stored.arm_ne_closed ha))))

theorem moves_sendArmed (w : World) (i : Nat) (st : Stored) (r : String) (mid : Int) :
    Moves none w (w.sendArmed i st r mid) :=
  sendArmed_of (P := Moves none w) (moves_armAndSend w i st) (fun _ => (moves_armAndSend w i st).trans (moves_poolPut _ i mid))

theorem moves_send (i : Nat) (p : Pub) (l : List (String × Int)) (w : World) : Moves none w (w.send i l p) :=
  send_of (P := Moves none w) (fun w' sid _ _ h => h.trans ((Moves.extendDeadline w' i sid).trans (.emit _ _ _ Pkt.noConfusion)))
    (fun w' sid _ _ _ _ h => h.trans ((Moves.tables w' i _ _ _ _ _).trans (moves_sendArmed _ i _ sid _))) l w (.refl w)

theorem moves_onResolved (w : World) (i : Nat) (ev : Ack.Resolved) (st : Stored) : Moves none w (w.onResolved i ev st) :=
  onResolved_of (P := Moves none w) (.refl w) (fun st' _ _ _ _ _ _ _ _ _ _ => moves_armAndSend w i st')
    (fun _ _ _ mid _ _ => moves_poolPut w i mid)

theorem moves_deliverLocal (w : World) (j : Nat) (p : Pub) : Moves none w (w.deliverLocal j p) :=
  moves_send j p _ w

theorem moves_appendLog (w : World) (j : Nat) (p : Pub) : Moves none w (w.setNode j ((w.node j).appendLog p).1) := by
  rw [appendLog_fst]
  exact .tables _ j _ _ _ _ _

theorem moves_distribute (w : World) (i : Nat) (p : Pub) : Moves none w (w.distribute i p).1 :=
  distribute_of (P := Moves none w) (fun _ j p h => h.trans (moves_appendLog _ j p))
    (fun _ j p h => h.trans (moves_deliverLocal _ j p)) (.refl w) i p

/-- the publish job before its callback: retain, then distribute -/
theorem moves_publishCore (w : World) (i : Nat) (p : Pub) :
    Moves none w ((retainStep w i p).distribute i { p with retain := false }).1 :=
  (Moves.retain w i p).trans (moves_distribute _ i { p with retain := false })

theorem moves_publishJob (w : World) (i : Nat) (p : Pub) {onOk : World → World} (h : ∀ w, Moves none w (onOk w)) :
    Moves none w (w.publishJob i p onOk) := by
  rw [publishJob_eq]
  split
  · exact (moves_publishCore w i p).trans (h _)
  · exact moves_publishCore w i p

theorem moves_ackStep (i : Nat) (w : World) (ev : Ack.Resolved) : Moves none w (ackStep i w ev) := by
  unfold ackStep
  split
  · exact .refl w
  · have h := Moves.tables (who := none) w i (w.node i).acks (storedErase ev.key (w.node i).stored) (w.node i).pool
      (w.node i).log (w.node i).logCalls
    simp only
    split
    · exact h.trans (moves_publishJob _ i _ (fun w => .emit w _ _ (by simp)))
    · exact h.trans (moves_onResolved _ i ev _)

theorem moves_ackFrom (w : World) (i : Nat) (pfx : String) (kind : Ack.PType) (mid : Int) :
    Moves none w (w.ackFrom i pfx kind mid) := by
  rw [ackFrom_eq]
  exact (Moves.tables w i _ _ _ _ _).trans (Moves.foldl (moves_ackStep i) _ _)

theorem moves_resolveStep (i : Nat) (w : World) (ev : Ack.Resolved) : Moves none w (resolveStep i w ev) := by
  unfold resolveStep
  split
  · exact .refl w
  · exact (Moves.tables w i _ _ _ _ _).trans (moves_onResolved _ i ev _)

theorem moves_sweep (w : World) (i : Nat) : Moves none w (w.sweep i) := by
  rw [sweep_eq]
  exact ((Moves.epoch w).trans (.tables _ i _ _ _ _ _)).trans (Moves.foldl (moves_resolveStep i) _ _)

theorem moves_subStep (w : World) (i : Nat) (sid : String) (tq : String × Nat) : Moves (some sid) w (subStep w i sid tq) := by
  unfold subStep
  refine (Moves.subCreate w i tq.1 tq.2).trans ?_
  simp only
  split
  · rename_i s' hs'
    split
    · exact .refl _
    · exact .topics _ i s' _ hs'
  · exact .refl _

theorem moves_replayStep (w : World) (i : Nat) (sid : String) (tq : String × Nat) : Moves none w (replayStep w i sid tq) :=
  Moves.foldl (fun w _ => moves_send i _ _ w) _ w

theorem moves_unsubStep (w : World) (i : Nat) (sid pt : String) : Moves (some sid) w (unsubStep w i sid pt) := by
  unfold unsubStep
  refine (Moves.subDelete w i pt).trans ?_
  simp only
  split
  · rename_i s' hs'
    exact .topics _ i s' _ hs'
  · exact .refl _

theorem moves_process (w : World) (i : Nat) (sid : String) (pkt : CPkt) : Moves (some sid) w (w.process i sid pkt).1 := by
  refine process_of (P := Moves (some sid) w) (.refl w) (fun _ c p hp h => h.trans (.emit _ c p hp)) ?_
    (fun _ _ _ _ _ _ _ _ _ => .tables w i _ _ _ _ _) (fun w' tq h => h.trans (moves_subStep w' i sid tq))
    (fun w' tq h => h.trans (moves_replayStep w' i sid tq).lift) (fun w' pt h => h.trans (moves_unsubStep w' i sid pt))
    (fun pfx kind mid => (moves_ackFrom w i pfx kind mid).lift) pkt
  intro _ _ _ _ _ _ onOk _ hok
  rw [publishJob_eq]
  split
  · exact hok _ (moves_publishCore w i _).lift
  · exact (moves_publishCore w i _).lift

end Wasp.Broker
