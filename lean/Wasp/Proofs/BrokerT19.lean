import Wasp.Properties.C13
import Wasp.Proofs.BrokerT10
/-! The session record across the end of a session, for Wasp/Properties/C11Record.lean. -/
namespace Wasp.Broker.AgentT19
open Wasp.Broker Wasp.Dist Wasp.Crdt

/-- unregistering, closing and deleting the subscriptions leaves the session records of node i alone; the crdt clock
    only moves forward -/
theorem tdBase_sessions (w : World) (i : Nat) (hi : i < w.nodes.length) (s : Sess) :
    (AgentD.tdBase w i s).nodes.length = w.nodes.length ∧
    ((AgentD.tdBase w i s).node i).dist.sessions = (w.node i).dist.sessions ∧
    w.clock ≤ (AgentD.tdBase w i s).clock := by
  unfold AgentD.tdBase
  refine foldl_inv (fun w' : World => w'.nodes.length = w.nodes.length ∧
    (w'.node i).dist.sessions = (w.node i).dist.sessions ∧ w.clock ≤ w'.clock) _ _ _ ⟨setNode_length _ _ _, ?_, Int.le_refl _⟩ ?_
  · show ((w.setNode i _).node i).dist.sessions = _
    rw [node_setNode_self _ _ _ hi]
  · intro b t _ ⟨hlen, hsess, hclk⟩
    refine ⟨by rw [AgentD.subDelete_length, hlen], ?_, ?_⟩
    · rw [AgentT10.subDelete_node_dist b i (by rw [hlen]; exact hi)]; exact hsess
    · rw [AgentD.subDelete_clock]; omega

theorem sessDelete_node_dist (w : World) (i : Nat) (hi : i < w.nodes.length) (sid : String) :
    ((w.sessDelete i sid).node i).dist = (Wasp.Dist.sessDelete (w.node i).dist w.clock sid).1 := by
  obtain ⟨P, h⟩ := sessDelete_eq w i hi sid
  rw [h, node_setNode_self w.tick.1 i _ hi]

theorem mem_sessSet_id {x md : SessionMD} {l : List SessionMD} (hu : (l.map (·.id)).Nodup)
    (hm : md ∈ sessSet x l) (hid : md.id = x.id) : md = x := by
  have h := (mem_iff_sessLookup _ (sessSet_nodup x l hu) md).mp hm
  rw [sessLookup_sessSet, if_pos hid.symm] at h
  exact (Option.some.inj h).symm

theorem sessByClientID_eq {a b : State} (h : a.sessions = b.sessions) (m c : String) :
    sessByClientID a m c = sessByClientID b m c := by
  simp only [sessByClientID, sessFilter, h]

theorem mem_sessAll {st : State} {md : SessionMD} :
    md ∈ sessAll st ↔ md ∈ st.sessions ∧ isAdded md.stamp = true := by
  simp [sessAll, sessFilter]

theorem mem_sessByClientID {st : State} {md : SessionMD} {m c : String} :
    md ∈ sessByClientID st m c ↔ md ∈ st.sessions ∧ isAdded md.stamp = true ∧ md.mount = m ∧ md.client = c := by
  simp [sessByClientID, sessFilter]

/-- the record of the ending session goes away — PROVIDED the stamp of its live record is not ahead of the crdt
    clock (`hclk`); without `hclk` the tombstone written by the teardown (deleted := clock) is older than the
    record's `added` stamp and the record stays live -/
theorem teardown_removes_record_of_clock (w : World) (i : Nat) (hi : i < w.nodes.length) (s : Sess)
    (hu : ((w.node i).dist.sessions.map (·.id)).Nodup)
    (hrec : ∀ md ∈ sessAll (w.node i).dist, md.id = s.id → md.mount = s.mount ∧ md.client = s.client)
    (hclk : ∀ md ∈ sessAll (w.node i).dist, md.id = s.id → md.added ≤ w.clock) :
    ∀ md ∈ sessAll ((teardown w i s).1.node i).dist, md.id ≠ s.id := by
  obtain ⟨hlen, hsess, hck⟩ := tdBase_sessions w i hi s
  have hiB : i < (AgentD.tdBase w i s).nodes.length := by rw [hlen]; exact hi
  have he := sessByClientID_eq hsess s.mount s.client
  rw [AgentD.teardown_eq, he]
  intro md hmd hid
  split at hmd
  · rename_i hany
    simp only at hmd
    rw [sessDelete_node_dist _ _ hiB] at hmd
    obtain ⟨x, hx, hxid⟩ := List.any_eq_true.mp hany
    have hxid : x.id = s.id := by simpa using hxid
    obtain ⟨hxm, hxa, -, -⟩ := mem_sessByClientID.mp hx
    have hlook : sessLookup s.id (w.node i).dist.sessions = some x := by
      rw [← hxid]; exact (mem_iff_sessLookup _ hu x).mp hxm
    have hxc : x.added ≤ w.clock := hclk x (mem_sessAll.mpr ⟨hxm, hxa⟩) hxid
    have hxa' : (decide (x.added > 0) && decide (x.added > x.deleted)) = true := hxa
    simp only [Bool.and_eq_true, decide_eq_true_eq] at hxa'
    have hnr : isRemoved x.stamp = false := by
      show (decide (x.deleted > 0) && decide (x.added < x.deleted)) = false
      simp only [Bool.and_eq_false_iff, decide_eq_false_iff_not]
      right; omega
    unfold Wasp.Dist.sessDelete at hmd
    rw [hsess, hlook] at hmd
    simp only [hnr] at hmd
    obtain ⟨hm, ha⟩ := mem_sessAll.mp hmd
    have hm' : md ∈ sessSet { x with deleted := (AgentD.tdBase w i s).clock } (w.node i).dist.sessions := by
      simpa using hm
    have e := mem_sessSet_id hu hm' (hid.trans hxid.symm)
    subst e
    have ha' : (decide (x.added > 0) && decide (x.added > (AgentD.tdBase w i s).clock)) = true := ha
    simp only [Bool.and_eq_true, decide_eq_true_eq] at ha'
    omega
  · rename_i hany
    apply hany
    simp only at hmd
    obtain ⟨hm, ha⟩ := mem_sessAll.mp hmd
    rw [hsess] at hm
    obtain ⟨h1, h2⟩ := hrec md (mem_sessAll.mpr ⟨hm, ha⟩) hid
    exact List.any_eq_true.mpr ⟨md, mem_sessByClientID.mpr ⟨hm, ha, h1, h2⟩, by simpa using hid⟩

/-- the will is withheld exactly when another live record carries the client identifier -/
theorem teardown_will_withheld_iff (w : World) (i : Nat) (hi : i < w.nodes.length) (s : Sess) :
    (teardown w i s).2 = true ↔
      ∃ md ∈ sessByClientID (w.node i).dist s.mount s.client, md.id ≠ s.id := by
  have he := sessByClientID_eq (tdBase_sessions w i hi s).2.1 s.mount s.client
  rw [AgentD.teardown_eq, he]
  simp only [List.any_eq_true, bne_iff_ne, ne_eq]

end Wasp.Broker.AgentT19
