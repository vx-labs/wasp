import Wasp.Model.Auth
/-!
Helper lemmas for C16: an invariant rule for the bisection loop of Go's sort.Search, the insertion step of
the stable sort, and the scan over the rest of a sorted table as a `find?`.
-/
namespace Wasp.Auth

/-! ## sort.Search

`goSearchLoop` (on `Nat`) is the model's loop; the translator renders `sort.Search` into `Go.searchLoop` (on `Int`,
Go's `int`), which has the same rule as `Go.searchLoop_inv` (Proofs/GoLit.lean): one rule for both would need an order
class for two instances. `searchLoop_eq_goSearchLoop` (Proofs/AuthLit.lean) identifies the two loops. -/

theorem mid_bounds {i j : Nat} (h : i < j) : i ≤ (i + j) / 2 ∧ (i + j) / 2 < j := by omega

/-- Two invariants: `A` of the lower end (it moves behind a probe that fails), `B` of the upper end (it moves to a
    probe that holds); with enough fuel the ends meet, so both hold of the answer. -/
theorem goSearchLoop_inv (f : Nat → Bool) (A B : Nat → Prop) (n : Nat)
    (hA : ∀ h, h < n → f h = false → A (h + 1)) (hB : ∀ h, h < n → f h = true → B h) :
    ∀ fuel i j, i ≤ j → j ≤ n → j < i + fuel → A i → B j →
      A (goSearchLoop f fuel i j) ∧ B (goSearchLoop f fuel i j) := by
  intro fuel
  induction fuel with
  | zero => intro i j _ _ hf; omega
  | succ fuel ih =>
    intro i j hij hjn hf hi hj
    unfold goSearchLoop
    by_cases hlt : i < j
    · have hm := mid_bounds hlt
      simp only [hlt, if_true]
      generalize (i + j) / 2 = m at hm ⊢
      cases hfm : f m with
      | false => exact ih _ j (by omega) hjn (by omega) (hA m (by omega) hfm) hj
      | true => exact ih i m hm.1 (by omega) (by omega) hi (hB m (by omega) hfm)
    · simp only [hlt, if_false]
      cases Nat.le_antisymm hij (Nat.not_lt.1 hlt)
      exact ⟨hi, hj⟩

theorem goSearch_le (n : Nat) (f : Nat → Bool) : goSearch n f ≤ n :=
  (goSearchLoop_inv f (fun _ => True) (· ≤ n) n (fun _ _ _ => trivial) (fun _ h _ => Nat.le_of_lt h)
    (n + 1) 0 n (Nat.zero_le n) (Nat.le_refl n) (by omega) trivial (Nat.le_refl n)).2

/-! ## insertion sort -/

theorem insertByUser_perm (r : Record) (l : List Record) : (insertByUser r l).Perm (r :: l) := by
  induction l with
  | nil => exact List.Perm.refl _
  | cons x rest ih =>
    unfold insertByUser
    split
    · exact List.Perm.refl _
    · exact (List.Perm.cons x ih).trans (List.Perm.swap r x rest)

theorem insertByUser_sorted (r : Record) (l : List Record)
    (hl : l.Pairwise (fun a b => a.userHash ≤ b.userHash)) :
    (insertByUser r l).Pairwise (fun a b => a.userHash ≤ b.userHash) := by
  induction l with
  | nil => simp [insertByUser]
  | cons x rest ih =>
    unfold insertByUser
    rw [List.pairwise_cons] at hl
    split
    next hlt =>
      rw [List.pairwise_cons]
      refine ⟨?_, List.pairwise_cons.mpr hl⟩
      intro y hy
      have hrx : r.userHash ≤ x.userHash := hlt
      rcases List.mem_cons.mp hy with rfl | hy
      · exact hrx
      · exact String.le_trans hrx (hl.1 y hy)
    next hnlt =>
      rw [List.pairwise_cons]
      refine ⟨?_, ih hl.2⟩
      intro y hy
      have hy' := (insertByUser_perm r rest).mem_iff.mp hy
      rcases List.mem_cons.mp hy' with rfl | hy'
      · rcases String.le_total y.userHash x.userHash with h | h
        · exact absurd h hnlt
        · exact h
      · exact hl.1 y hy'

/-! ## the scan -/

/-- the predicate `authenticate` looks for -/
def hit (u p : String) (r : Record) : Bool := decide (r.userHash = u) && decide (r.passHash = p)

theorem hit_iff (u p : String) (r : Record) : hit u p r = true ↔ r.userHash = u ∧ r.passHash = p := by
  simp [hit]

theorem scanFrom_append (u p : String) :
    ∀ (rest pre : List Record) (fuel : Nat), rest.Pairwise (fun a b => a.userHash ≤ b.userHash) →
      (∀ x ∈ rest, u ≤ x.userHash) → rest.length < fuel →
      scanFrom (pre ++ rest) u p fuel pre.length = (rest.find? (hit u p)).map (·.mount) := by
  intro rest
  induction rest with
  | nil =>
    intro pre fuel _ _ hf
    cases fuel with
    | zero => exact absurd hf (Nat.not_lt_zero _)
    | succ n => simp [scanFrom]
  | cons r rest ih =>
    intro pre fuel hs hge hf
    cases fuel with
    | zero => exact absurd hf (Nat.not_lt_zero _)
    | succ n =>
      have hget : (pre ++ r :: rest)[pre.length]? = some r := by simp
      rw [List.pairwise_cons] at hs
      unfold scanFrom
      simp only [hget, List.find?_cons, hit]
      by_cases hu : r.userHash = u
      · by_cases hp : r.passHash = p
        · simp [hu, hp]
        · have := ih (pre ++ [r]) n hs.2 (fun x hx => hge x (List.mem_cons_of_mem _ hx))
            (Nat.lt_of_succ_lt_succ hf)
          simp only [List.append_assoc, List.singleton_append, List.length_append, List.length_singleton] at this
          simp [hu, hp, this]
      · have hur : u < r.userHash :=
          (String.not_le.1 fun h => hu (String.le_antisymm h (hge r List.mem_cons_self)))
        have : rest.find? (hit u p) = none := List.find?_eq_none.2 fun x hx => by
          have : x.userHash ≠ u := fun e => String.not_le.2 hur (e ▸ hs.1 x hx)
          simp [hit, this]
        simp [hu, this]

theorem sorted_getElem_le (db : List Record)
    (hs : db.Pairwise (fun a b => a.userHash ≤ b.userHash)) (i j : Nat) (hij : i ≤ j) (hj : j < db.length) :
    (db[i]'(by omega)).userHash ≤ (db[j]).userHash := by
  rcases Nat.lt_or_eq_of_le hij with h | h
  · exact (List.pairwise_iff_getElem.mp hs) i j (by omega) hj h
  · subst h; exact String.le_refl _

end Wasp.Auth
