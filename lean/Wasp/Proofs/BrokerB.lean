import Wasp.Proofs.BrokerA
import Wasp.Proofs.AckQueue
/-!
For Properties/C05 and Properties/C14: `WRel k` and `WRelS k` (the in-flight key `k` is left alone by the writer, by the
whole publish job), what `Distribute` does to the logs of the nodes (`distStep_spec`, `distFold_spec`), and that
`hashKey` determines its prefix.
-/
namespace Wasp.Broker.AgentB
open Wasp.Dist Wasp.Topic Wasp.Broker

theorem node_emit (w : World) (c : String) (p : Pkt) (m : Nat) : (w.emit c p).node m = w.node m := rfl
theorem length_emit (w : World) (c : String) (p : Pkt) : (w.emit c p).nodes.length = w.nodes.length := rfl


/-- the fields of a node that the writer pipeline never touches -/
def core (n : Node) : Nat × List Pub × Nat × Bool × List Nat × Bool × Bool :=
  (n.peer, n.log, n.logCalls, n.logFailAll, n.logFailAt, n.failed, n.unreachable)

/-- no registered session of `n` can produce the in-flight key `k` -/
def NoClash (k : Ack.Key) (n : Node) : Prop :=
  ∀ sid' mid', (n.sess sid').isSome → Ack.hashKey sid' mid' ≠ k

/-- what the writer leaves of a node; `safe`: the key `k` stays absent if no registered session can produce it -/
structure NodeRel (k : Ack.Key) (n n' : Node) : Prop where
  core : core n' = core n
  conn : ∀ sid, (n'.sess sid).map (·.conn) = (n.sess sid).map (·.conn)
  safe : NoClash k n → Ack.msgFind k n.acks.msgs = none → Ack.msgFind k n'.acks.msgs = none

theorem NodeRel.refl (k : Ack.Key) (n : Node) : NodeRel k n n := ⟨rfl, fun _ => rfl, fun _ h => h⟩

theorem NodeRel.isSome {k : Ack.Key} {n n' : Node} (h : NodeRel k n n') (sid : String) :
    (n'.sess sid).isSome = (n.sess sid).isSome := by
  have := h.conn sid
  cases h1 : n'.sess sid <;> cases h2 : n.sess sid <;> simp [h1, h2] at this ⊢

theorem NodeRel.noClash {k : Ack.Key} {n n' : Node} (h : NodeRel k n n') (hc : NoClash k n) : NoClash k n' := by
  intro sid' mid' hs
  rw [h.isSome] at hs
  exact hc sid' mid' hs

theorem NodeRel.trans {k : Ack.Key} {a b c : Node} (h1 : NodeRel k a b) (h2 : NodeRel k b c) : NodeRel k a c :=
  ⟨h2.core.trans h1.core, fun sid => (h2.conn sid).trans (h1.conn sid),
   fun hc hn => h2.safe (h1.noClash hc) (h1.safe hc hn)⟩

/-- across `send` and the callbacks of the in-flight table -/
def WRel (k : Ack.Key) (w w' : World) : Prop :=
  w'.nodes.length = w.nodes.length ∧ ∀ m, NodeRel k (w.node m) (w'.node m)

theorem WRel.refl (k : Ack.Key) (w : World) : WRel k w w := ⟨rfl, fun _ => NodeRel.refl _ _⟩

theorem WRel.trans {k : Ack.Key} {a b c : World} (h1 : WRel k a b) (h2 : WRel k b c) : WRel k a c :=
  ⟨h2.1.trans h1.1, fun m => (h1.2 m).trans (h2.2 m)⟩

theorem WRel.setNode {k : Ack.Key} (w : World) (j : Nat) (n' : Node) (h : NodeRel k (w.node j) n') :
    WRel k w (w.setNode j n') := by
  refine ⟨setNode_length _ _ _, fun m => ?_⟩
  rw [node_setNode]
  split
  · next hm => rw [hm.1]; exact h
  · exact NodeRel.refl _ _

theorem WRel.emit {k : Ack.Key} {w w' : World} (h : WRel k w w') (c : String) (p : Pkt) : WRel k w (w'.emit c p) := h

theorem NodeRel.setSess (k : Ack.Key) (n : Node) (sid : String) (s s' : Sess) (hs : n.sess sid = some s)
    (hid : s'.id = s.id) (hc : s'.conn = s.conn) : NodeRel k n (n.setSess s') := by
  refine ⟨rfl, fun sid' => ?_, fun _ h => h⟩
  rw [setSess_sess]
  cases hx : n.sess sid' with
  | none => rfl
  | some x =>
    simp only [Option.map_some, Option.some.injEq]
    split
    · rename_i e
      -- `x` carries the identifier of `s`, so it is `s`
      have : sid' = sid := by rw [← sess_some_id hx, beq_iff_eq.mp e, hid, sess_some_id hs]
      rw [this, hs] at hx
      cases hx
      exact hc
    · rfl

theorem WRel.extendDeadline (k : Ack.Key) (w : World) (i : Nat) (sid : String) : WRel k w (w.extendDeadline i sid) :=
  extendDeadline_of (P := WRel k w) (WRel.refl _ _)
    (fun s hs => WRel.setNode _ _ _ (NodeRel.setSess k _ sid s _ hs rfl rfl))

theorem insert_safe {k : Ack.Key} (q : Ack.Queue) (pfx : String) (kind : Ack.PType) (qos : Nat) (mid : Int) (d : Ack.Time)
    (hne : Ack.hashKey pfx mid ≠ k) (hn : Ack.msgFind k q.msgs = none) :
    Ack.msgFind k (Ack.insert q pfx kind qos mid d).1.msgs = none := by
  rcases Ack.insert_cases q pfx kind qos mid d with ⟨h1, _⟩ | ⟨st, _, _, heq⟩
  · rw [h1]; exact hn
  · rw [heq]
    simp [Ack.msgFind_append, hn, Ack.msgFind, hne]


theorem NodeRel.insert (k : Ack.Key) (n : Node) (sid : String) (kind : Ack.PType) (qos : Nat) (mid : Int) (d : Ack.Time)
    (st : List (Ack.Key × Stored)) (hs : (n.sess sid).isSome) :
    NodeRel k n { n with acks := (Ack.insert n.acks sid kind qos mid d).1, stored := st } :=
  ⟨rfl, fun _ => rfl, fun hc hn => insert_safe _ _ _ _ _ _ (hc sid mid hs) hn⟩

theorem WRel.isSome {k : Ack.Key} {w w' : World} (h : WRel k w w') (i : Nat) (sid : String) :
    ((w'.node i).sess sid).isSome = ((w.node i).sess sid).isSome := (h.2 i).isSome sid

theorem WRel.armAndSend (k : Ack.Key) (w : World) (i : Nat) (st : Stored) : WRel k w (w.armAndSend i st) := by
  refine armAndSend_of (P := WRel k w) (h0 := WRel.refl k w) (hd := WRel.extendDeadline k w i)
    (hw := fun sid _ _ _ _ _ _ _ => WRel.emit (WRel.extendDeadline k w i sid) _ _) (ha := ?_)
  intro sid kind qos mid _ s _ hs _
  have h1 := WRel.extendDeadline k w i sid
  have h2 : ((w.extendDeadline i sid).node i).sess sid |>.isSome := by rw [h1.isSome, hs]; rfl
  exact h1.trans (WRel.emit (WRel.setNode _ _ _ (NodeRel.insert k _ sid kind qos mid _ _ h2)) _ _)

theorem WRel.setPool (k : Ack.Key) (w : World) (i : Nat) (pl : IdPool.Pool) :
    WRel k w (w.setNode i { w.node i with pool := pl }) :=
  WRel.setNode _ _ _ ⟨rfl, fun _ => rfl, fun _ h => h⟩

theorem WRel.poolPut (k : Ack.Key) (w : World) (i : Nat) (mid : Int) : WRel k w (w.poolPut i mid) :=
  WRel.setPool k w i _

theorem WRel.sendArmed (k : Ack.Key) (w : World) (i : Nat) (st : Stored) (sid : String) (mid : Int) :
    WRel k w (w.sendArmed i st sid mid) :=
  sendArmed_of (WRel.armAndSend k w i st) (fun _ => (WRel.armAndSend k w i st).trans (WRel.poolPut _ _ _ _))

theorem WRel.send (k : Ack.Key) (i : Nat) (p : Pub) (rcpt : List (String × Int)) (w : World) :
    WRel k w (w.send i rcpt p) :=
  send_of (P := WRel k w) (fun w' sid _ _ h => h.trans (WRel.emit (WRel.extendDeadline k w' i sid) _ _))
    (fun w' _ _ _ _ _ h => (h.trans (WRel.setPool k w' i _)).trans (WRel.sendArmed k _ i _ _ _))
    rcpt w (WRel.refl k w)

theorem WRel.deliverLocal (k : Ack.Key) (w : World) (j : Nat) (p : Pub) : WRel k w (w.deliverLocal j p) :=
  WRel.send k j p _ w

theorem WRel.onResolved (k : Ack.Key) (w : World) (i : Nat) (ev : Ack.Resolved) (st : Stored) :
    WRel k w (w.onResolved i ev st) :=
  onResolved_of (P := WRel k w) (h0 := WRel.refl k w) (arm := fun st' _ _ _ _ _ _ _ _ _ _ => WRel.armAndSend k w i st')
    (put := fun _ _ _ mid _ _ => WRel.poolPut k w i mid)

theorem out_send (i : Nat) (p : Pub) (rcpt : List (String × Int)) (w : World) (cp : String × Pkt)
    (h : cp ∈ (w.send i rcpt p).out) :
    cp ∈ w.out ∨ ∃ sid qos s, (sid, qos) ∈ rcpt ∧ (w.node i).sess sid = some s ∧ s.conn = cp.1 := by
  by_cases hin : cp ∈ w.out
  · exact Or.inl hin
  · obtain ⟨sid, s, hm, hs, hc, _⟩ := AgentA.send_out i p cp.1 cp.2 rcpt w h hin
    obtain ⟨⟨sid', qos⟩, hm', rfl⟩ := List.mem_map.mp hm
    exact Or.inr ⟨sid', qos, s, hm', hs, hc⟩

theorem mem_dedupNat (l : List Nat) (x : Nat) : x ∈ dedupNat l ↔ x ∈ l := by
  fun_induction dedupNat l with
  | case1 => simp
  | case2 y rest ih =>
    simp only [List.mem_cons, List.mem_filter, ih]
    by_cases h : x = y <;> simp [h]

theorem dedupNat_nodup (l : List Nat) : (dedupNat l).Nodup := by
  fun_induction dedupNat l with
  | case1 => simp
  | case2 y rest ih =>
    rw [List.nodup_cons]
    refine ⟨by simp [List.mem_filter], ?_⟩
    exact List.Nodup.sublist List.filter_sublist ih

theorem node_eq_getElem (w : World) (m : Nat) (h : m < w.nodes.length) : w.node m = w.nodes[m] := by
  simp [World.node, List.getD_eq_getElem?_getD, h]

theorem nodeIndex_none {w : World} {x : Nat} (h : nodeIndexOfPeer w x = none) :
    ∀ m, m < w.nodes.length → (w.node m).peer ≠ x := by
  intro m hm
  unfold nodeIndexOfPeer at h
  rw [List.findIdx?_eq_none_iff] at h
  have := h (w.nodes[m]) (List.getElem_mem hm)
  rw [node_eq_getElem w m hm]
  simpa using this

theorem nodeIndex_some {w : World} {x j : Nat} (h : nodeIndexOfPeer w x = some j) :
    j < w.nodes.length ∧ (w.node j).peer = x := by
  unfold nodeIndexOfPeer at h
  rw [List.findIdx?_eq_some_iff_getElem] at h
  obtain ⟨hj, hp, _⟩ := h
  refine ⟨hj, ?_⟩
  rw [node_eq_getElem w j hj]
  simpa using hp

def reachB (w : World) (i j : Nat) : Bool := j == i || !((w.node j).failed || (w.node j).unreachable)
def acceptsB (n : Node) : Bool := !(n.logFailAll || n.logFailAt.contains n.logCalls)
def DistinctB (w : World) : Prop :=
  ∀ a b, a < w.nodes.length → b < w.nodes.length → (w.node a).peer = (w.node b).peer → a = b

/-- the fields no part of Distribute changes -/
def flags (n : Node) : Nat × Bool × List Nat × Bool × Bool :=
  (n.peer, n.logFailAll, n.logFailAt, n.failed, n.unreachable)

theorem flags_of_core {n n' : Node} (h : core n' = core n) : flags n' = flags n := by
  simp only [core, Prod.mk.injEq] at h
  simp [flags, h]

theorem reachB_congr {w w' : World} {i m : Nat} (h : flags (w'.node m) = flags (w.node m)) : reachB w' i m = reachB w i m := by
  simp only [flags, Prod.mk.injEq] at h
  simp [reachB, h]

theorem acceptsB_congr {n n' : Node} (h : core n' = core n) : acceptsB n' = acceptsB n := by
  simp only [core, Prod.mk.injEq] at h
  simp [acceptsB, h]



theorem reachB_iff (w : World) (i j : Nat) :
    reachB w i j = true ↔ ¬ (j ≠ i ∧ ((w.node j).failed = true ∨ (w.node j).unreachable = true)) := by
  simp only [reachB]
  by_cases h : j = i <;> cases (w.node j).failed <;> cases (w.node j).unreachable <;> simp [h]

theorem distStep_spec (i : Nat) (p : Pub) (w₀ : World) (ok₀ : Bool) (x : Nat) (hd : DistinctB w₀) :
    ((distStep i p (w₀, ok₀) x).1.nodes.length = w₀.nodes.length) ∧
    (∀ m, flags ((distStep i p (w₀, ok₀) x).1.node m) = flags (w₀.node m)) ∧
    (∀ m, m < w₀.nodes.length → (w₀.node m).peer ≠ x → core ((distStep i p (w₀, ok₀) x).1.node m) = core (w₀.node m)) ∧
    (∀ m, m < w₀.nodes.length → (w₀.node m).peer = x →
      ((distStep i p (w₀, ok₀) x).1.node m).log =
        (w₀.node m).log ++ if reachB w₀ i m = true ∧ acceptsB (w₀.node m) = true then [p] else []) ∧
    ((distStep i p (w₀, ok₀) x).2 = true ↔
      ok₀ = true ∧ ∃ m, m < w₀.nodes.length ∧ (w₀.node m).peer = x ∧ reachB w₀ i m = true ∧ acceptsB (w₀.node m) = true) := by
  cases hidx : nodeIndexOfPeer w₀ x with
  | none =>
    have hn := nodeIndex_none hidx
    rw [distStep_none hidx]
    refine ⟨rfl, fun _ => rfl, fun _ _ _ => rfl, fun m hm hx => absurd hx (hn m hm), ?_⟩
    simp only [Bool.false_eq_true, false_iff, not_and, not_exists]
    intro _ m hm hx
    exact absurd hx (hn m hm)
  | some jx =>
    obtain ⟨hjx, hpx⟩ := nodeIndex_some hidx
    have huniq : ∀ m, m < w₀.nodes.length → (w₀.node m).peer = x → m = jx :=
      fun m hm hx => hd m jx hm hjx (hx.trans hpx.symm)
    by_cases hr : reachB w₀ i jx = true
    · rw [distStep_go hidx ((reachB_iff w₀ i jx).mp hr)]
      by_cases ha : acceptsB (w₀.node jx) = true
      · rw [appendLog_of_accepts _ p (by simpa [acceptsB] using ha), if_pos rfl]
        have hrel := WRel.deliverLocal "" (w₀.setNode jx
          { w₀.node jx with logCalls := (w₀.node jx).logCalls + 1, log := (w₀.node jx).log ++ [p] }) jx p
        refine ⟨hrel.1.trans (setNode_length _ _ _), ?_, ?_, ?_, ?_⟩
        · intro m
          rw [flags_of_core (hrel.2 m).core, node_setNode]; split
          · next h => rw [h.1]; rfl
          · rfl
        · intro m hm hx
          rw [(hrel.2 m).core, node_setNode]; split
          · next h => rw [h.1] at hx; exact absurd hpx hx
          · rfl
        · intro m hm hx
          have hc := (hrel.2 m).core
          simp only [core, Prod.mk.injEq] at hc
          rw [hc.2.1, huniq m hm hx, node_setNode]
          simp [hjx, ha, hr]
        · constructor
          · intro h; exact ⟨h, jx, hjx, hpx, hr, ha⟩
          · intro h; exact h.1
      · rw [appendLog_of_rejects _ p (by simpa only [acceptsB, Bool.not_eq_true, Bool.not_eq_false'] using ha),
          if_neg Bool.false_ne_true]
        refine ⟨setNode_length _ _ _, ?_, ?_, ?_, ?_⟩
        · intro m; rw [node_setNode]; split
          · next h => rw [h.1]; rfl
          · rfl
        · intro m hm hx; rw [node_setNode]; split
          · next h => rw [h.1] at hx; exact absurd hpx hx
          · rfl
        · intro m hm hx
          rw [huniq m hm hx, node_setNode]
          simp [hjx, ha]
        · simp only [Bool.false_eq_true, false_iff, not_and, not_exists]
          intro _ m hm hx
          rw [huniq m hm hx]
          exact fun _ h => absurd h ha
    · rw [distStep_skip hidx (Classical.not_not.mp (mt (reachB_iff w₀ i jx).mpr hr))]
      refine ⟨rfl, fun _ => rfl, fun _ _ _ => rfl, ?_, ?_⟩
      · intro m hm hx
        rw [huniq m hm hx]
        simp [hr]
      · simp only [Bool.false_eq_true, false_iff, not_and, not_exists]
        intro _ m hm hx
        rw [huniq m hm hx]
        exact fun h => absurd h hr

theorem peer_of_flags {n n' : Node} (h : flags n' = flags n) : n'.peer = n.peer := by
  simp only [flags, Prod.mk.injEq] at h
  exact h.1

theorem log_of_core {n n' : Node} (h : core n' = core n) : n'.log = n.log := by
  simp only [core, Prod.mk.injEq] at h
  exact h.2.1

theorem distFold_spec (i : Nat) (p : Pub) (ps : List Nat) :
    ps.Nodup → ∀ (w₀ : World) (ok₀ : Bool), DistinctB w₀ →
    ((ps.foldl (distStep i p) (w₀, ok₀)).1.nodes.length = w₀.nodes.length) ∧
    (∀ m, m < w₀.nodes.length →
      ((ps.foldl (distStep i p) (w₀, ok₀)).1.node m).log =
        (w₀.node m).log ++
          if (w₀.node m).peer ∈ ps ∧ reachB w₀ i m = true ∧ acceptsB (w₀.node m) = true then [p] else []) ∧
    ((ps.foldl (distStep i p) (w₀, ok₀)).2 = true ↔
      ok₀ = true ∧ ∀ x ∈ ps, ∃ m, m < w₀.nodes.length ∧ (w₀.node m).peer = x ∧ reachB w₀ i m = true ∧ acceptsB (w₀.node m) = true) := by
  induction ps with
  | nil => intro _ w₀ ok₀ _; simp
  | cons x rest ih =>
    intro hnd w₀ ok₀ hd
    rw [List.nodup_cons] at hnd
    obtain ⟨hlen, hflags, hcore, hlog, hok⟩ := distStep_spec i p w₀ ok₀ x hd
    have hd' : DistinctB (distStep i p (w₀, ok₀) x).1 := by
      intro a b ha hb hab
      rw [hlen] at ha hb
      rw [peer_of_flags (hflags a), peer_of_flags (hflags b)] at hab
      exact hd a b ha hb hab
    obtain ⟨ilen, ilog, iok⟩ := ih hnd.2 (distStep i p (w₀, ok₀) x).1 (distStep i p (w₀, ok₀) x).2 hd'
    simp only [List.foldl_cons]
    refine ⟨ilen.trans hlen, ?_, ?_⟩
    · intro m hm
      rw [ilog m (hlen ▸ hm), peer_of_flags (hflags m), reachB_congr (hflags m)]
      by_cases hx : (w₀.node m).peer = x
      · have hnr : (w₀.node m).peer ∉ rest := hx ▸ hnd.1
        rw [hlog m hm hx]
        simp [hx, hnd.1]
      · have hc := hcore m hm hx
        rw [log_of_core hc, acceptsB_congr hc]
        simp [hx]
    · rw [iok, hok]
      have key : ∀ y ∈ rest,
          ((∃ m, m < (distStep i p (w₀, ok₀) x).1.nodes.length ∧ ((distStep i p (w₀, ok₀) x).1.node m).peer = y ∧
              reachB (distStep i p (w₀, ok₀) x).1 i m = true ∧ acceptsB ((distStep i p (w₀, ok₀) x).1.node m) = true) ↔
           (∃ m, m < w₀.nodes.length ∧ (w₀.node m).peer = y ∧ reachB w₀ i m = true ∧ acceptsB (w₀.node m) = true)) := by
        intro y hy
        have hyx : y ≠ x := fun e => hnd.1 (e ▸ hy)
        apply exists_congr
        intro m
        rw [hlen, peer_of_flags (hflags m), reachB_congr (hflags m)]
        constructor
        · rintro ⟨hm, hp, hr, ha⟩
          have hc := hcore m hm (hp ▸ hyx)
          exact ⟨hm, hp, hr, by rw [← acceptsB_congr hc]; exact ha⟩
        · rintro ⟨hm, hp, hr, ha⟩
          have hc := hcore m hm (hp ▸ hyx)
          exact ⟨hm, hp, hr, by rw [acceptsB_congr hc]; exact ha⟩
      constructor
      · rintro ⟨⟨h0, hx⟩, hr⟩
        refine ⟨h0, ?_⟩
        intro y hy
        rcases List.mem_cons.mp hy with rfl | hy
        · exact hx
        · exact (key y hy).mp (hr y hy)
      · rintro ⟨h0, hall⟩
        exact ⟨⟨h0, hall x List.mem_cons_self⟩, fun y hy => (key y hy).mpr (hall y (List.mem_cons_of_mem _ hy))⟩


/-! ### in-flight keys: `hashKey` determines its prefix -/

theorem slash_not_in_natRepr (n : Nat) : '/' ∉ n.repr.toList := by
  rw [Nat.toList_repr]
  intro h
  have := Nat.isDigit_of_mem_toDigits (b := 10) (by decide) (by decide) h
  exact absurd this (by decide)

theorem slash_not_in_intToString (m : Int) : '/' ∉ (toString m).toList := by
  rw [Int.toString_eq_repr, Int.repr_eq_if]
  split
  · exact slash_not_in_natRepr _
  · rw [String.toList_append]
    intro h
    rcases List.mem_append.mp h with h | h
    · revert h; decide
    · exact slash_not_in_natRepr _ h

theorem list_split_last {a b r r' : List Char} (c : Char) (hr : c ∉ r) (hr' : c ∉ r')
    (h : a ++ c :: r = b ++ c :: r') : a = b := by
  induction a generalizing b with
  | nil =>
    cases b with
    | nil => rfl
    | cons y b' =>
      simp only [List.nil_append, List.cons_append, List.cons.injEq] at h
      exact absurd (h.2 ▸ (by simp : c ∈ b' ++ c :: r')) hr
  | cons x a' ih =>
    cases b with
    | nil =>
      simp only [List.nil_append, List.cons_append, List.cons.injEq] at h
      exact absurd (h.2 ▸ (by simp : c ∈ a' ++ c :: r)) hr'
    | cons y b' =>
      simp only [List.cons_append, List.cons.injEq] at h
      rw [h.1, ih h.2]

theorem hashKey_prefix_inj {a b : String} {m m' : Int} (h : Ack.hashKey a m = Ack.hashKey b m') : a = b := by
  unfold Ack.hashKey at h
  have h2 := congrArg String.toList h
  simp only [String.toList_append] at h2
  have hs : "/".toList = ['/'] := by decide
  rw [hs, List.append_assoc, List.append_assoc] at h2
  exact String.toList_injective
    (list_split_last '/' (slash_not_in_intToString m) (slash_not_in_intToString m') h2)

theorem noClash_of_none {n : Node} {pfx : String} (mid : Int) (h : n.sess pfx = none) :
    NoClash (Ack.hashKey pfx mid) n := by
  intro sid' mid' hs hk
  rw [hashKey_prefix_inj hk, h] at hs
  cases hs


/-! ### the weaker frame relation of the whole publish pipeline (logs and replicated state may change) -/

/-- `NodeRel k` without `core`: the log may have grown -/
structure NodeRelS (k : Ack.Key) (n n' : Node) : Prop where
  conn : ∀ sid, (n'.sess sid).map (·.conn) = (n.sess sid).map (·.conn)
  safe : NoClash k n → Ack.msgFind k n.acks.msgs = none → Ack.msgFind k n'.acks.msgs = none

theorem NodeRel.toS {k : Ack.Key} {n n' : Node} (h : NodeRel k n n') : NodeRelS k n n' := ⟨h.conn, h.safe⟩

theorem NodeRelS.refl (k : Ack.Key) (n : Node) : NodeRelS k n n := ⟨fun _ => rfl, fun _ h => h⟩

theorem NodeRelS.noClash {k : Ack.Key} {n n' : Node} (h : NodeRelS k n n') (hc : NoClash k n) : NoClash k n' := by
  intro sid' mid' hs
  have := h.conn sid'
  have h2 : (n.sess sid').isSome := by
    cases h1 : n'.sess sid' <;> cases h2 : n.sess sid' <;> simp [h1, h2] at this hs ⊢
  exact hc sid' mid' h2

theorem NodeRelS.trans {k : Ack.Key} {a b c : Node} (h1 : NodeRelS k a b) (h2 : NodeRelS k b c) : NodeRelS k a c :=
  ⟨fun sid => (h2.conn sid).trans (h1.conn sid), fun hc hn => h2.safe (h1.noClash hc) (h1.safe hc hn)⟩

/-- across a publish job -/
def WRelS (k : Ack.Key) (w w' : World) : Prop :=
  w'.nodes.length = w.nodes.length ∧ ∀ m, NodeRelS k (w.node m) (w'.node m)

theorem WRel.toS {k : Ack.Key} {w w' : World} (h : WRel k w w') : WRelS k w w' := ⟨h.1, fun m => (h.2 m).toS⟩

theorem WRelS.refl (k : Ack.Key) (w : World) : WRelS k w w := ⟨rfl, fun _ => NodeRelS.refl _ _⟩

theorem WRelS.trans {k : Ack.Key} {a b c : World} (h1 : WRelS k a b) (h2 : WRelS k b c) : WRelS k a c :=
  ⟨h2.1.trans h1.1, fun m => (h1.2 m).trans (h2.2 m)⟩

theorem WRelS.setNode {k : Ack.Key} (w : World) (j : Nat) (n' : Node) (h : NodeRelS k (w.node j) n') :
    WRelS k w (w.setNode j n') := by
  refine ⟨setNode_length _ _ _, fun m => ?_⟩
  rw [node_setNode]
  split
  · next hm => rw [hm.1]; exact h
  · exact NodeRelS.refl _ _

theorem WRelS.broadcast (k : Ack.Key) (w : World) (i : Nat) (ev : Event) : WRelS k w (w.broadcast i ev) :=
  WRelS.setNode _ _ _ ⟨fun _ => rfl, fun _ h => h⟩

theorem WRelS.setDist (k : Ack.Key) (w : World) (i : Nat) (d : State) :
    WRelS k w (w.setNode i { w.node i with dist := d }) :=
  WRelS.setNode _ _ _ ⟨fun _ => rfl, fun _ h => h⟩



theorem WRelS.retainStep (k : Ack.Key) (w : World) (i : Nat) (p : Pub) : WRelS k w (retainStep w i p) := by
  unfold Broker.retainStep
  split
  · have h0 : WRelS k w w.tick.1 := ⟨rfl, fun _ => NodeRelS.refl _ _⟩
    exact h0.trans ((WRelS.setDist k _ i _).trans (WRelS.broadcast k _ i _))
  · exact WRelS.refl _ _

theorem NodeRelS.appendLog (k : Ack.Key) (n : Node) (p : Pub) : NodeRelS k n (n.appendLog p).1 := by
  unfold Node.appendLog
  simp only []
  split
  · exact ⟨fun _ => rfl, fun _ h => h⟩
  · exact ⟨fun _ => rfl, fun _ h => h⟩

theorem WRelS.distribute (k : Ack.Key) (w : World) (i : Nat) (p : Pub) : WRelS k w (w.distribute i p).1 :=
  distribute_of (P := WRelS k w) (fun _ _ _ h => h.trans (WRelS.setNode _ _ _ (NodeRelS.appendLog k _ _)))
    (fun _ _ _ h => h.trans (WRel.deliverLocal k _ _ _).toS) (WRelS.refl k w) i p

theorem WRelS.publishJob (k : Ack.Key) (w : World) (i : Nat) (p : Pub) (onOk : World → World)
    (hok : ∀ w', WRelS k w' (onOk w')) : WRelS k w (w.publishJob i p onOk) := by
  rw [publishJob_eq]
  have h := (WRelS.retainStep k w i p).trans (WRelS.distribute k _ i { p with retain := false })
  split
  · exact h.trans (hok _)
  · exact h

theorem WRelS.ackStep (k : Ack.Key) (w : World) (i : Nat) (ev : Ack.Resolved) : WRelS k w (ackStep i w ev) := by
  unfold Broker.ackStep
  have h0 : WRelS k w (w.setNode i { w.node i with stored := storedErase ev.key (w.node i).stored }) :=
    WRelS.setNode _ _ _ ⟨fun _ => rfl, fun _ h => h⟩
  split
  · exact WRelS.refl _ _
  · split
    · exact h0.trans (WRelS.publishJob k _ i _ _ (fun w' => WRelS.refl _ _))
    · exact h0.trans (WRel.onResolved k _ i ev _).toS


/-! ### counterexample world for `C05_pubrel_closes` without the `hreg` hypothesis -/

/-- one node; a session is registered under the id "S/in", i.e. the in-flight prefix of the inbound
    handshakes of session "S"; the entry stored under the key "S/in/5" is a QoS 2 delivery to it -/
def cexNode : Node :=
  { peer := 1, dist := { peer := 1 }, pool := initPool
    reg := [{ id := "S/in", conn := "c", client := "cl", mount := "", keepalive := 30, will := none }]
    acks := { msgs := [(Ack.hashKey ("S" ++ "/in") 5, ⟨.pubrel, .pubrec, 5, 3000⟩)], timeouts := [] }
    stored := [(Ack.hashKey ("S" ++ "/in") 5, .out2 "S/in" "t" "p" false false 5)] }

def cexWorld : World := { nodes := [cexNode] }

end Wasp.Broker.AgentB
