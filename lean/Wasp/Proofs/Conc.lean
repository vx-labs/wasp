import Wasp.Model.Conc
/-!
Helper lemmas for C20 (lock machine and resolution machine of `Wasp.Model.Conc`).
-/
namespace Wasp.Conc.Proofs
open Wasp.Conc

/-! ## resolution machine -/

/-- the key a program counter has claimed, if any -/
def claimOf : Pc → Option Key
  | .ackFire k => some k
  | .sweepFire k _ => some k
  | _ => none

theorem claimed_eq (s : QState) : claimed s = s.pcs.filterMap claimOf := by
  unfold claimed
  congr

/-- what a program counter with claim `o` adds to `(claimed s).count k` -/
def cnt (k : Key) : Option Key → Nat
  | none => 0
  | some k' => if k' == k then 1 else 0

theorem count_filterMap_cons (f : Pc → Option Key) (k : Key) (a : Pc) (as : List Pc) :
    ((a :: as).filterMap f).count k = (as.filterMap f).count k + cnt k (f a) := by
  cases h : f a with
  | none => rw [List.filterMap_cons_none h]; rfl
  | some b => rw [List.filterMap_cons_some h, List.count_cons]; rfl

theorem count_filterMap_set (f : Pc → Option Key) (k : Key) :
    ∀ (pcs : List Pc) (t : Nat) (pc pc' : Pc), pcs[t]? = some pc →
      ((pcs.set t pc').filterMap f).count k + cnt k (f pc)
        = (pcs.filterMap f).count k + cnt k (f pc') := by
  intro pcs
  induction pcs with
  | nil => intro t pc pc' h; cases h
  | cons a as ih =>
    intro t pc pc' h
    cases t with
    | zero =>
      cases h
      rw [List.set_cons_zero, count_filterMap_cons, count_filterMap_cons]
      omega
    | succ t =>
      have := ih t pc pc' h
      rw [List.set_cons_succ, count_filterMap_cons, count_filterMap_cons]
      omega

def ResInv (s : QState) : Prop :=
  (∀ k, s.resolved.count k + (claimed s).count k + s.present.count k = s.accepted.count k) ∧
  s.present.Nodup

section moves
variable {s : QState} {t : Nat} {pc : Pc} (h : ResInv s) (hpc : s.pcs[t]? = some pc) (pc' : Pc)
include h hpc

theorem resInv_step (pr tm ac rs : List Key) (hnd : pr.Nodup)
    (hk : ∀ k, rs.count k + cnt k (claimOf pc') + pr.count k + s.accepted.count k
             = s.resolved.count k + cnt k (claimOf pc) + s.present.count k + ac.count k) :
    ResInv { present := pr, timers := tm, pcs := s.pcs.set t pc', accepted := ac, resolved := rs } := by
  refine ⟨fun k => ?_, hnd⟩
  have h1 := count_filterMap_set claimOf k s.pcs t pc pc' hpc
  have h2 := h.1 k
  have h3 := hk k
  rw [claimed_eq] at h2 ⊢
  show rs.count k + ((s.pcs.set t pc').filterMap claimOf).count k + pr.count k = ac.count k
  omega

theorem resInv_idle (hc : claimOf pc = none) (hc' : claimOf pc' = none) (tm : List Key) :
    ResInv { s with pcs := s.pcs.set t pc', timers := tm } :=
  resInv_step h hpc pc' _ tm _ _ h.2 fun _ => by rw [hc, hc']

/-- a successful put-if-missing -/
theorem resInv_accept (hc : claimOf pc = none) (hc' : claimOf pc' = none) {k : Key}
    (hk : s.present.contains k = false) :
    ResInv { s with pcs := s.pcs.set t pc', present := k :: s.present, accepted := k :: s.accepted } := by
  refine resInv_step h hpc pc' _ _ _ _ ?_ fun k' => ?_
  · refine List.nodup_cons.mpr ⟨fun hm => ?_, h.2⟩
    rw [List.contains_iff_mem.mpr hm] at hk
    cases hk
  · rw [hc, hc', List.count_cons, List.count_cons]
    omega

theorem resInv_claim (hc : claimOf pc = none) {k : Key} (hc' : claimOf pc' = some k)
    (hk : s.present.contains k = true) :
    ResInv { s with pcs := s.pcs.set t pc', present := s.present.erase k } := by
  refine resInv_step h hpc pc' _ _ _ _ (h.2.erase k) fun k' => ?_
  rw [hc, hc', List.count_erase, cnt, cnt]
  by_cases hkk : k = k'
  · subst hkk
    have := List.count_pos_iff.mpr (List.contains_iff_mem.mp hk)
    rw [beq_self_eq_true, if_pos rfl]
    omega
  · rw [beq_false_of_ne hkk, if_neg Bool.false_ne_true]
    rfl

theorem resInv_fire {k : Key} (hc : claimOf pc = some k) (hc' : claimOf pc' = none) (tm : List Key) :
    ResInv { s with pcs := s.pcs.set t pc', timers := tm, resolved := k :: s.resolved } := by
  refine resInv_step h hpc pc' _ _ _ _ h.2 fun k' => ?_
  rw [hc, hc', List.count_cons, cnt, cnt]
  omega

end moves

theorem qstep_inv (s : QState) (t : Nat) (h : ResInv s) : ResInv (qstep s t) := by
  unfold qstep
  cases hpc : s.pcs[t]? with
  | none => exact h
  | some pc =>
    simp only
    cases pc with
    | insertStart k =>
      simp only
      split
      · exact resInv_idle h hpc _ rfl rfl _
      · exact resInv_accept h hpc _ rfl rfl (Bool.eq_false_iff.mpr ‹_›)
    | insertTimer k => exact resInv_idle h hpc _ rfl rfl _
    | ackStart k ok =>
      simp only
      split
      · exact resInv_idle h hpc _ rfl rfl _
      · exact resInv_idle h hpc _ rfl rfl _
    | ackDelete k =>
      simp only
      split
      · exact resInv_claim h hpc _ rfl rfl ‹_›
      · exact resInv_idle h hpc _ rfl rfl _
    | ackFire k => exact resInv_fire h hpc _ rfl rfl _
    | sweepPop => exact resInv_idle h hpc _ rfl rfl _
    | sweepDelete ks =>
      cases ks with
      | nil => exact resInv_idle h hpc _ rfl rfl _
      | cons k ks =>
        simp only
        split
        · exact resInv_claim h hpc _ rfl rfl ‹_›
        · exact resInv_idle h hpc _ rfl rfl _
    | sweepFire k ks => exact resInv_fire h hpc _ rfl rfl _
    | done => exact h

theorem qrun_inv (sched : List Nat) : ∀ (s : QState), ResInv s → ResInv (qrun s sched) := by
  induction sched with
  | nil => intro s h; exact h
  | cons t ts ih => intro s h; exact ih _ (qstep_inv s t h)

theorem resInv_start (pcs : List Pc)
    (hstart : ∀ pc ∈ pcs, (∃ k, pc = .insertStart k) ∨ (∃ k b, pc = .ackStart k b) ∨ pc = .sweepPop ∨ pc = .done) :
    ResInv { pcs := pcs } := by
  refine ⟨fun k => ?_, by simp⟩
  have : claimed { pcs := pcs } = [] := by
    rw [claimed_eq]
    simp only [List.filterMap_eq_nil_iff]
    intro pc hm
    rcases hstart pc hm with ⟨k, rfl⟩ | ⟨k, b, rfl⟩ | rfl | rfl <;> rfl
  simp [this]

/-! ## lock machine -/

theorem holdersOf_setHolders_self (l : Nat) (hs : Holders) (h : List (Nat × Holders)) :
    holdersOf l (setHolders l hs h) = hs := by
  simp [holdersOf, setHolders]

theorem holdersOf_setHolders_ne (l l' : Nat) (hs : Holders) (h : List (Nat × Holders)) (hne : l' ≠ l) :
    holdersOf l' (setHolders l hs h) = holdersOf l' h := by
  have hne' : (l == l') = false := by simp; exact fun e => hne e.symm
  simp only [holdersOf, setHolders, List.find?_cons, hne']
  congr 1
  induction h with
  | nil => rfl
  | cons e es ih =>
    by_cases h1 : e.1 = l
    · have : (e.1 == l') = false := by simp [h1]; exact fun e => hne e.symm
      simp [h1, hne', ih]
    · simp [h1, List.find?_cons, ih]

theorem holdersOf_setHolders_elim {P : Holders → Prop} {l l' : Nat} {hs : Holders}
    {h : List (Nat × Holders)} (h1 : l' = l → P hs) (h2 : P (holdersOf l' h)) :
    P (holdersOf l' (setHolders l hs h)) := by
  by_cases hl : l' = l
  · rw [hl, holdersOf_setHolders_self]
    exact h1 hl
  · rw [holdersOf_setHolders_ne _ _ _ _ hl]
    exact h2

/-- invariant of the lock machine (relative to the initial programs); `cur` is the lock set the
    static scan of `p0` has reached where thread `t` stands now -/
def LInv (progs : List (List Act)) (s : LState) : Prop :=
  (∀ t p, s.progs[t]? = some p → ∃ p0 cur, progs[t]? = some p0 ∧
      (∀ a ∈ scanAccesses cur p, a ∈ scanAccesses [] p0) ∧
      ∀ l m, (l, m) ∈ cur → (t, m) ∈ holdersOf l s.held) ∧
  (∀ l, (holdersOf l s.held).all (fun e => e.2 == .shared) = true ∨ (holdersOf l s.held).length ≤ 1)

theorem linv_init (progs : List (List Act)) : LInv progs { progs := progs, held := [] } := by
  refine ⟨fun t p h => ⟨p, [], h, fun a ha => ha, by simp⟩, fun l => ?_⟩
  simp [holdersOf]


theorem linv_next {progs : List (List Act)} {s : LState} {t : Nat} {a : Act} {rest : List Act}
    (h : LInv progs s) (hp : s.progs[t]? = some (a :: rest)) (held' : List (Nat × Holders))
    (f : List (Nat × Mode) → List (Nat × Mode))
    (hscan : ∀ cur, ∀ x ∈ scanAccesses (f cur) rest, x ∈ scanAccesses cur (a :: rest))
    (hown : ∀ cur, (∀ l m, (l, m) ∈ cur → (t, m) ∈ holdersOf l s.held) →
      ∀ l m, (l, m) ∈ f cur → (t, m) ∈ holdersOf l held')
    (hother : ∀ t' l m, t' ≠ t → (t', m) ∈ holdersOf l s.held → (t', m) ∈ holdersOf l held')
    (hmode : ∀ l, (holdersOf l held').all (fun e => e.2 == .shared) = true ∨ (holdersOf l held').length ≤ 1) :
    LInv progs { progs := s.progs.set t rest, held := held' } := by
  refine ⟨fun t' p hp' => ?_, hmode⟩
  by_cases htt : t' = t
  · subst htt
    rw [List.getElem?_set_self', hp] at hp'
    cases hp'
    obtain ⟨p0, cur, hp0, hsc, hh⟩ := h.1 t' _ hp
    exact ⟨p0, f cur, hp0, fun x hx => hsc x (hscan cur x hx), hown cur hh⟩
  · rw [List.getElem?_set_ne (Ne.symm htt)] at hp'
    obtain ⟨p0, cur, hp0, hsc, hh⟩ := h.1 t' p hp'
    exact ⟨p0, cur, hp0, hsc, fun l m hm => hother t' l m htt (hh l m hm)⟩

theorem linv_acquire (progs : List (List Act)) (s : LState) (t l : Nat) (m : Mode) (rest : List Act)
    (h : LInv progs s) (hp : s.progs[t]? = some (.acquire l m :: rest))
    (hcan : canAcquire (holdersOf l s.held) m = true) :
    LInv progs { progs := s.progs.set t rest, held := setHolders l ((t, m) :: holdersOf l s.held) s.held } := by
  refine linv_next h hp _ (fun cur => (l, m) :: cur) (fun _ _ hx => hx) ?_ ?_ ?_
  · intro cur hh l' m' hm
    rcases List.mem_cons.mp hm with e | hm
    · cases e
      rw [holdersOf_setHolders_self]
      exact List.mem_cons_self
    · exact holdersOf_setHolders_elim (P := fun H => (t, m') ∈ H)
        (fun e => List.mem_cons_of_mem _ (e ▸ hh _ _ hm)) (hh _ _ hm)
  · intro t' l' m' _ hm
    exact holdersOf_setHolders_elim (P := fun H => (t', m') ∈ H)
      (fun e => List.mem_cons_of_mem _ (e ▸ hm)) hm
  · intro l'
    refine holdersOf_setHolders_elim
      (P := fun H => H.all (fun e => e.2 == .shared) = true ∨ H.length ≤ 1) (fun _ => ?_) (h.2 l')
    cases m with
    | exclusive =>
      rw [List.isEmpty_iff.mp hcan]
      exact Or.inr (Nat.le_refl 1)
    | shared => exact Or.inl (List.all_cons.trans (congrArg _ hcan))

theorem linv_release (progs : List (List Act)) (s : LState) (t l : Nat) (rest : List Act)
    (h : LInv progs s) (hp : s.progs[t]? = some (.release l :: rest)) :
    LInv progs { progs := s.progs.set t rest,
                 held := setHolders l ((holdersOf l s.held).filter (fun e => e.1 != t)) s.held } := by
  refine linv_next h hp _ (fun cur => cur.filter (fun e => e.1 != l)) (fun _ _ hx => hx) ?_ ?_ ?_
  · intro cur hh l' m' hm
    obtain ⟨hm, hl⟩ := List.mem_filter.mp hm
    rw [holdersOf_setHolders_ne _ _ _ _ (bne_iff_ne.mp hl)]
    exact hh _ _ hm
  · intro t' l' m' ht hm
    exact holdersOf_setHolders_elim (P := fun H => (t', m') ∈ H)
      (fun e => List.mem_filter.mpr ⟨e ▸ hm, bne_iff_ne.mpr ht⟩) hm
  · intro l'
    refine holdersOf_setHolders_elim
      (P := fun H => H.all (fun e => e.2 == .shared) = true ∨ H.length ≤ 1) (fun _ => ?_) (h.2 l')
    refine (h.2 l).imp (fun hall => ?_) (Nat.le_trans (List.length_filter_le _ _))
    rw [List.all_eq_true] at hall ⊢
    exact fun x hx => hall x (List.mem_filter.mp hx).1

theorem linv_access (progs : List (List Act)) (s : LState) (t loc : Nat) (w : Bool) (rest : List Act)
    (h : LInv progs s) (hp : s.progs[t]? = some (.access loc w :: rest)) :
    LInv progs { s with progs := s.progs.set t rest } :=
  linv_next h hp _ id (fun _ _ hx => List.mem_cons_of_mem _ hx) (fun _ hh => hh) (fun _ _ _ _ hm => hm) h.2

theorem linv_step (progs : List (List Act)) (s s' : LState) (t : Nat) (h : LInv progs s)
    (hs : stepThread s t = some s') : LInv progs s' := by
  unfold stepThread at hs
  split at hs
  · simp at hs
  · simp at hs
  · rename_i a rest hp
    cases a with
    | acquire l m =>
      simp only at hs
      split at hs
      · rename_i hc
        simp only [Option.some.injEq] at hs
        subst hs
        exact linv_acquire progs s t l m rest h hp hc.1
      · simp at hs
    | release l =>
      simp only [Option.some.injEq] at hs
      subst hs
      exact linv_release progs s t l rest h hp
    | access loc w =>
      simp only [Option.some.injEq] at hs
      subst hs
      exact linv_access progs s t loc w rest h hp

theorem linv_run (progs : List (List Act)) (sched : List Nat) :
    ∀ s, LInv progs s → LInv progs (runSchedule s sched) := by
  induction sched with
  | nil => intro s h; exact h
  | cons t ts ih =>
    intro s h
    simp only [runSchedule]
    apply ih
    cases hs : stepThread s t with
    | none => exact h
    | some s' => exact linv_step progs s s' t h hs


theorem nextAccess_some (s : LState) (t loc : Nat) (w : Bool) (h : nextAccess s t = some (loc, w)) :
    ∃ rest, s.progs[t]? = some (.access loc w :: rest) := by
  unfold nextAccess at h
  split at h
  · rename_i loc' w' rest hp
    cases h
    exact ⟨rest, hp⟩
  · cases h

theorem protectedPair_true {a b : List (Nat × Mode)} (h : protectedPair a b = true) :
    ∃ l x y, (l, x) ∈ a ∧ (l, y) ∈ b ∧ (x = .exclusive ∨ y = .exclusive) := by
  obtain ⟨⟨l, x⟩, hx, hb⟩ := List.any_eq_true.mp h
  obtain ⟨⟨l', y⟩, hy, hxy⟩ := List.any_eq_true.mp hb
  obtain ⟨hl, hex⟩ := Bool.and_eq_true_iff.mp hxy
  cases eq_of_beq hl
  exact ⟨l, x, y, hx, hy, (Bool.or_eq_true_iff.mp hex).imp eq_of_beq eq_of_beq⟩

theorem holder_unique {H : Holders} (hm : H.all (fun e => e.2 == .shared) = true ∨ H.length ≤ 1)
    {t₁ t₂ : Nat} {x y : Mode} (g₁ : (t₁, x) ∈ H) (g₂ : (t₂, y) ∈ H)
    (hex : x = .exclusive ∨ y = .exclusive) : t₁ = t₂ := by
  rcases hm with hall | hlen
  · rw [List.all_eq_true] at hall
    have e₁ : x = .shared := eq_of_beq (hall _ g₁)
    have e₂ : y = .shared := eq_of_beq (hall _ g₂)
    subst e₁ e₂
    rcases hex with e | e <;> cases e
  · obtain ⟨i, hi, e₁⟩ := List.getElem_of_mem g₁
    obtain ⟨j, hj, e₂⟩ := List.getElem_of_mem g₂
    have hij : i = j := by omega
    subst hij
    exact congrArg Prod.fst (e₁.symm.trans e₂)

theorem linv_no_race (progs : List (List Act)) (hd : Disciplined progs) (s : LState) (h : LInv progs s) :
    ¬ raceState s := by
  rintro ⟨t₁, t₂, loc, w₁, w₂, hne, ha₁, ha₂, hw⟩
  obtain ⟨r₁, hp₁⟩ := nextAccess_some s t₁ loc w₁ ha₁
  obtain ⟨r₂, hp₂⟩ := nextAccess_some s t₂ loc w₂ ha₂
  obtain ⟨p₁, c₁, hq₁, hs₁, hh₁⟩ := h.1 t₁ _ hp₁
  obtain ⟨p₂, c₂, hq₂, hs₂, hh₂⟩ := h.1 t₂ _ hp₂
  have m₁ := hs₁ (loc, w₁, c₁) List.mem_cons_self
  have m₂ := hs₂ (loc, w₂, c₂) List.mem_cons_self
  obtain ⟨l, x, y, hx, hy, hex⟩ := protectedPair_true (hd.2 t₁ t₂ p₁ p₂ hne hq₁ hq₂ _ m₁ _ m₂ rfl hw)
  exact hne (holder_unique (h.2 l) (hh₁ _ _ hx) (hh₂ _ _ hy) hex)

end Wasp.Conc.Proofs
