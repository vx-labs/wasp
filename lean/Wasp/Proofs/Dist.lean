import Wasp.Model.Dist
/-! Definitions and lemmas about the three replicated LWW stores, for C01, C07, C08, C09, C10 and
    the broker proofs. The common core: looking a key up after merging the updates `l` is a
    left fold of `lwwStep` ("replace iff strictly newer") over the updates of that key. -/
namespace Wasp.Dist
open Wasp.Crdt Wasp.Topic

/-! ## definitions the C08 statements use -/

/-- no two distinct updates of the same key carry the same timestamp -/
def TieFree {α κ : Type} (key : α → κ) (ts : α → Int) (l : List α) : Prop :=
  ∀ a ∈ l, ∀ b ∈ l, key a = key b → ts a = ts b → a = b

theorem TieFree.eq {α κ : Type} {key : α → κ} {ts : α → Int} {l : List α} (h : TieFree key ts l) {a b : α}
    (ha : a ∈ l) (hb : b ∈ l) (hk : key a = key b) (ht : ts a = ts b) : a = b :=
  h a ha b hb hk ht

def SessionMD.ts (s : SessionMD) : Int := lastUpdate s.stamp
def Sub.ts (s : Sub) : Int := lastUpdate s.stamp
def Retained.ts (s : Retained) : Int := lastUpdate s.stamp

def validSession (s : SessionMD) : Prop := s.id ≠ ""
def validSub (s : Sub) : Prop := s.session ≠ "" ∧ s.pattern ≠ ""
/-- a retained update as the broker produces it: it carries a publish whose topic is a
    non-empty topic NAME, and it either adds or removes -/
def validRetained (r : Retained) : Prop :=
  r.hasPublish = true ∧ r.topic ≠ "" ∧ wfTopic (levels r.topic) = true ∧
    (isAdded r.stamp = true ∨ isRemoved r.stamp = true)

/-- the subscriptions stored under a pattern, looked up by session id -/
def subEntry (m : List (String × List Sub)) (pattern session : String) : Option Sub :=
  (subsLookup pattern m).find? (fun s => s.session == session)

def retEntry (m : List (String × Retained)) (topic : String) : Option Retained :=
  (m.find? (fun kr => kr.1 == topic)).map (·.2)

theorem nodup_append_singleton {α : Type} {l : List α} {a : α} (h : l.Nodup) (ha : a ∉ l) :
    (l ++ [a]).Nodup := by
  rw [List.nodup_append]
  refine ⟨h, List.pairwise_singleton _ a, ?_⟩
  intro x hx b hb
  rw [List.mem_singleton] at hb
  subst hb
  intro e; subst e; exact ha hx

/-! ## stamps -/

theorem lastUpdate_mk (a d : Int) : lastUpdate ⟨a, d⟩ = if a > d then a else d := by
  unfold lastUpdate Generated.getLastEntryUpdate
  simp [Go.isNil, Go.getLastAdded, Go.getLastDeleted]

theorem isOutdated_eq (loc rem : Stamp) :
    isOutdated loc rem = decide (lastUpdate loc < lastUpdate rem) := rfl

theorem isAdded_mk (a d : Int) : isAdded ⟨a, d⟩ = (decide (a > 0) && decide (a > d)) := rfl

theorem isRemoved_mk (a d : Int) : isRemoved ⟨a, d⟩ = (decide (d > 0) && decide (a < d)) := rfl

/-! ## the generic last-writer-wins fold -/

def lwwStep {α : Type} (ts : α → Int) (cur : Option α) (s : α) : Option α :=
  match cur with
  | none => some s
  | some loc => if ts loc < ts s then some s else some loc

def lwwFold {α : Type} (ts : α → Int) (cur : Option α) (l : List α) : Option α :=
  l.foldl (lwwStep ts) cur

theorem lwwFold_nil {α : Type} (ts : α → Int) (cur : Option α) : lwwFold ts cur [] = cur := rfl

theorem lwwFold_cons {α : Type} (ts : α → Int) (cur : Option α) (a : α) (l : List α) :
    lwwFold ts cur (a :: l) = lwwFold ts (lwwStep ts cur a) l := rfl

/-- the test of the merge loops -/
def lwwOutdated {α : Type} (ts : α → Int) (cur : Option α) (s : α) : Bool :=
  match cur with
  | none => true
  | some loc => decide (ts loc < ts s)

theorem lwwStep_eq {α : Type} (ts : α → Int) (cur : Option α) (s : α) :
    lwwStep ts cur s = if lwwOutdated ts cur s = true then some s else cur := by
  cases cur with
  | none => rfl
  | some loc => simp only [lwwStep, lwwOutdated, decide_eq_true_eq]

theorem lwwFold_append {α : Type} (ts : α → Int) (cur : Option α) (l₁ l₂ : List α) :
    lwwFold ts cur (l₁ ++ l₂) = lwwFold ts (lwwFold ts cur l₁) l₂ := by
  simp [lwwFold]

theorem lwwFold_some {α : Type} (ts : α → Int) (l : List α) : ∀ (c : α),
    ∃ r, lwwFold ts (some c) l = some r ∧ (r = c ∨ r ∈ l) ∧ ts c ≤ ts r ∧ ∀ x ∈ l, ts x ≤ ts r := by
  induction l with
  | nil => exact fun c => ⟨c, rfl, Or.inl rfl, Int.le_refl _, fun _ h => absurd h List.not_mem_nil⟩
  | cons a l ih =>
    intro c
    show ∃ r, lwwFold ts (if ts c < ts a then some a else some c) l = some r ∧ _
    by_cases hlt : ts c < ts a
    · rw [if_pos hlt]
      obtain ⟨r, h1, h2, h3, h4⟩ := ih a
      exact ⟨r, h1, Or.inr (h2.elim (fun e => e ▸ List.mem_cons_self ..) (List.mem_cons_of_mem _)),
        Int.le_trans (Int.le_of_lt hlt) h3, List.forall_mem_cons.mpr ⟨h3, h4⟩⟩
    · rw [if_neg hlt]
      obtain ⟨r, h1, h2, h3, h4⟩ := ih c
      exact ⟨r, h1, h2.imp id (List.mem_cons_of_mem _), h3,
        List.forall_mem_cons.mpr ⟨Int.le_trans (Int.not_lt.mp hlt) h3, h4⟩⟩

theorem lwwFold_none_some {α : Type} (ts : α → Int) (l : List α) (r : α)
    (h : lwwFold ts none l = some r) : r ∈ l ∧ ∀ x ∈ l, ts x ≤ ts r := by
  cases l with
  | nil => simp [lwwFold] at h
  | cons a l =>
    rw [lwwFold_cons] at h
    simp only [lwwStep] at h
    obtain ⟨r', h1, h2, h3, h4⟩ := lwwFold_some ts l a
    rw [h1] at h
    cases h
    refine ⟨?_, ?_⟩
    · rcases h2 with h | h <;> simp [h]
    · intro x hx
      rcases List.mem_cons.mp hx with h | h
      · subst h; exact h3
      · exact h4 x h

theorem lwwFold_none_eq_none {α : Type} (ts : α → Int) (l : List α) :
    lwwFold ts none l = none ↔ l = [] := by
  cases l with
  | nil => simp [lwwFold]
  | cons a l =>
    rw [lwwFold_cons]
    simp only [lwwStep]
    obtain ⟨r', h1, -⟩ := lwwFold_some ts l a
    simp [h1]

/-- order and multiplicity do not matter when timestamps are tie-free -/
theorem lwwFold_none_congr {α : Type} (ts : α → Int) (l₁ l₂ : List α)
    (same : ∀ x, x ∈ l₁ ↔ x ∈ l₂) (tf : ∀ a ∈ l₁, ∀ b ∈ l₁, ts a = ts b → a = b) :
    lwwFold ts none l₁ = lwwFold ts none l₂ := by
  cases h₁ : lwwFold ts none l₁ with
  | none =>
    have e₁ := (lwwFold_none_eq_none ts l₁).mp h₁
    have e₂ : l₂ = [] := by
      cases l₂ with
      | nil => rfl
      | cons b l₂ => have := (same b).mpr (by simp); simp [e₁] at this
    simp [e₂, lwwFold]
  | some r₁ =>
    cases h₂ : lwwFold ts none l₂ with
    | none =>
      have e₂ := (lwwFold_none_eq_none ts l₂).mp h₂
      have := lwwFold_none_some ts l₁ r₁ h₁
      have := (same r₁).mp this.1
      simp [e₂] at this
    | some r₂ =>
      obtain ⟨m₁, x₁⟩ := lwwFold_none_some ts l₁ r₁ h₁
      obtain ⟨m₂, x₂⟩ := lwwFold_none_some ts l₂ r₂ h₂
      have a := x₁ r₂ ((same r₂).mpr m₂)
      have b := x₂ r₁ ((same r₁).mp m₁)
      have := tf r₁ m₁ r₂ ((same r₂).mpr m₂) (by omega)
      simp [this]

/-- the two halves of the `…_lww` statements, for a lookup that is a fold over the updates of the key -/
theorem lwwFold_filter_spec {α : Type} (ts : α → Int) (q : α → Prop) [DecidablePred q] (l : List α) :
    (∀ s, lwwFold ts none (l.filter (fun s => q s)) = some s →
        s ∈ l ∧ q s ∧ ∀ s' ∈ l, q s' → ts s' ≤ ts s) ∧
    (lwwFold ts none (l.filter (fun s => q s)) = none ↔ ∀ s ∈ l, ¬ q s) := by
  constructor
  · intro s h
    obtain ⟨h1, h2⟩ := lwwFold_none_some ts _ s h
    rw [List.mem_filter, decide_eq_true_eq] at h1
    exact ⟨h1.1, h1.2, fun s' hs' hq => h2 s' (List.mem_filter.mpr ⟨hs', decide_eq_true hq⟩)⟩
  · simp only [lwwFold_none_eq_none, List.filter_eq_nil_iff, decide_eq_true_eq]

theorem lwwFold_filter_congr {α : Type} (ts : α → Int) (q : α → Prop) [DecidablePred q] (l₁ l₂ : List α)
    (same : ∀ x, x ∈ l₁ ↔ x ∈ l₂)
    (tf : ∀ a ∈ l₁, ∀ b ∈ l₁, q a → q b → ts a = ts b → a = b) :
    lwwFold ts none (l₁.filter (fun s => q s)) = lwwFold ts none (l₂.filter (fun s => q s)) := by
  apply lwwFold_none_congr
  · intro x; rw [List.mem_filter, List.mem_filter, same]
  · intro a ha b hb
    rw [List.mem_filter, decide_eq_true_eq] at ha hb
    exact tf a ha.1 b hb.1 ha.2 hb.2

/-! ## a keyed store: `sessSet`, `subsAssign` and `topicsAssign` are one function -/

def kset {α κ : Type} [DecidableEq κ] (key : α → κ) (a : α) : List α → List α
  | [] => [a]
  | x :: rest => if key x = key a then a :: rest else x :: kset key a rest

section kset
variable {α κ : Type} [DecidableEq κ] (key : α → κ) (a : α)

theorem find?_kset (l : List α) (k : κ) :
    (kset key a l).find? (fun x => key x = k) =
      if key a = k then some a else l.find? (fun x => key x = k) := by
  induction l with
  | nil =>
    rw [kset, List.find?_cons]
    by_cases h : key a = k <;> simp [h]
  | cons x rest ih =>
    rw [kset]
    by_cases hx : key x = key a
    · rw [if_pos hx, List.find?_cons, List.find?_cons, hx]
      by_cases h : key a = k <;> simp [h]
    · rw [if_neg hx, List.find?_cons, List.find?_cons, ih]
      by_cases h : key x = k
      · have : ¬ key a = k := fun e => hx (h.trans e.symm)
        simp [h, this]
      · simp [h]

theorem mem_kset {l : List α} {x : α} (h : x ∈ kset key a l) : x = a ∨ x ∈ l := by
  induction l with
  | nil => exact Or.inl (List.mem_singleton.mp h)
  | cons y rest ih =>
    rw [kset] at h
    split at h
    · rcases List.mem_cons.mp h with h | h
      · exact Or.inl h
      · exact Or.inr (List.mem_cons_of_mem _ h)
    · rcases List.mem_cons.mp h with h | h
      · exact Or.inr (h ▸ List.mem_cons_self ..)
      · exact (ih h).imp id (List.mem_cons_of_mem _)

theorem mem_kset_iff {l : List α} (h : (l.map key).Nodup) {x : α} :
    x ∈ kset key a l ↔ x = a ∨ (x ∈ l ∧ key x ≠ key a) := by
  induction l with
  | nil => exact ⟨fun hx => Or.inl (List.mem_singleton.mp hx),
      fun hx => hx.elim (fun e => e ▸ List.mem_cons_self ..) (fun hx => absurd hx.1 List.not_mem_nil)⟩
  | cons y rest ih =>
    rw [List.map_cons, List.nodup_cons] at h
    rw [kset]
    split
    · rename_i hy
      rw [List.mem_cons, List.mem_cons]
      refine or_congr_right ⟨fun hx => ⟨Or.inr hx, fun e => h.1 ?_⟩, fun hx => hx.1.resolve_left ?_⟩
      · rw [hy, ← e]; exact List.mem_map_of_mem hx
      · intro e; exact hx.2 (e ▸ hy)
    · rename_i hy
      rw [List.mem_cons, List.mem_cons, ih h.2]
      constructor
      · rintro (e | e | e)
        · exact Or.inr ⟨Or.inl e, e ▸ hy⟩
        · exact Or.inl e
        · exact Or.inr ⟨Or.inr e.1, e.2⟩
      · rintro (e | ⟨e | e, hne⟩)
        · exact Or.inr (Or.inl e)
        · exact Or.inl e
        · exact Or.inr (Or.inr ⟨e, hne⟩)

theorem kset_nodup {l : List α} (h : (l.map key).Nodup) : ((kset key a l).map key).Nodup := by
  induction l with
  | nil => exact List.pairwise_singleton _ _
  | cons x rest ih =>
    rw [List.map_cons, List.nodup_cons] at h
    rw [kset]
    split
    · rename_i hx
      rw [List.map_cons, List.nodup_cons, ← hx]
      exact h
    · rename_i hx
      rw [List.map_cons, List.nodup_cons]
      refine ⟨fun hmem => ?_, ih h.2⟩
      obtain ⟨y, hy, e⟩ := List.mem_map.mp hmem
      rcases mem_kset key a hy with rfl | hy
      · exact hx e.symm
      · exact h.1 (e ▸ List.mem_map_of_mem hy)

end kset

/-! ## sessions -/

theorem sessLookup_eq_find (id : String) (l : List SessionMD) :
    sessLookup id l = l.find? (fun s => s.id = id) := by
  induction l with
  | nil => rfl
  | cons x rest ih =>
    rw [sessLookup, List.find?_cons, ih]
    by_cases h : x.id = id <;> simp [h]

theorem sessSet_eq_kset (s : SessionMD) (st : List SessionMD) : sessSet s st = kset SessionMD.id s st := by
  induction st with
  | nil => rfl
  | cons x rest ih => rw [sessSet, kset, ih]

theorem sessLookup_sessSet (s : SessionMD) (st : List SessionMD) (id : String) :
    sessLookup id (sessSet s st) = if s.id = id then some s else sessLookup id st := by
  rw [sessLookup_eq_find, sessLookup_eq_find, sessSet_eq_kset]
  exact find?_kset SessionMD.id s st id

theorem sessSet_mem {s x : SessionMD} {l : List SessionMD} (h : x ∈ sessSet s l) : x = s ∨ x ∈ l :=
  mem_kset SessionMD.id s (sessSet_eq_kset s l ▸ h)

theorem sessSet_nodup (s : SessionMD) (st : List SessionMD) (hk : (st.map (·.id)).Nodup) :
    ((sessSet s st).map (·.id)).Nodup := by
  rw [sessSet_eq_kset]
  exact kset_nodup SessionMD.id s hk

/-- one iteration of the mergeSessions loop on a valid entry -/
def sessStep (s : SessionMD) (st : List SessionMD) : List SessionMD :=
  if lwwOutdated SessionMD.ts (sessLookup s.id st) s = true then sessSet s st else st

theorem mergeSessions_cons (s : SessionMD) (rest st : List SessionMD) :
    mergeSessions (s :: rest) st = if s.id = "" then st else mergeSessions rest (sessStep s st) := by
  cases h : sessLookup s.id st <;> simp only [mergeSessions, sessStep, lwwOutdated, h] <;> rfl

theorem mergeSessions_append (a b st : List SessionMD) (ha : ∀ s ∈ a, s.id ≠ "") :
    mergeSessions (a ++ b) st = mergeSessions b (mergeSessions a st) := by
  induction a generalizing st with
  | nil => rfl
  | cons s rest ih =>
    have hs : s.id ≠ "" := ha s (List.mem_cons_self ..)
    rw [List.cons_append, mergeSessions_cons, mergeSessions_cons, if_neg hs, if_neg hs]
    exact ih _ (fun x hx => ha x (List.mem_cons_of_mem _ hx))

theorem sessLookup_sessStep (s : SessionMD) (st : List SessionMD) (id : String) :
    sessLookup id (sessStep s st) =
      if s.id = id then lwwStep SessionMD.ts (sessLookup id st) s else sessLookup id st := by
  unfold sessStep
  by_cases hid : s.id = id
  · subst hid
    rw [if_pos rfl, lwwStep_eq]
    split
    · rw [sessLookup_sessSet, if_pos rfl]
    · rfl
  · rw [if_neg hid]
    split
    · rw [sessLookup_sessSet, if_neg hid]
    · rfl

theorem sessLookup_mergeSessions (l : List SessionMD) (hv : ∀ s ∈ l, s.id ≠ "") (id : String) :
    ∀ st, sessLookup id (mergeSessions l st) =
      lwwFold SessionMD.ts (sessLookup id st) (l.filter (fun s => s.id = id)) := by
  induction l with
  | nil => intro st; simp [mergeSessions, lwwFold]
  | cons s rest ih =>
    intro st
    rw [mergeSessions_cons, if_neg (hv s (List.mem_cons_self ..)),
      ih (fun x hx => hv x (List.mem_cons_of_mem _ hx)), sessLookup_sessStep]
    by_cases hid : s.id = id
    · simp [hid, lwwFold_cons]
    · simp [hid]

/-- the loop stores the entry, skips it, or stops -/
theorem mergeSessions_preserves (P : List SessionMD → Prop) (l : List SessionMD)
    (hstep : ∀ s ∈ l, ∀ st, P st → P (sessSet s st)) : ∀ st, P st → P (mergeSessions l st) := by
  induction l with
  | nil => exact fun st h => h
  | cons s rest ih =>
    intro st h
    rw [mergeSessions_cons]
    split
    · exact h
    · apply ih (fun x hx => hstep x (List.mem_cons_of_mem _ hx))
      unfold sessStep
      split
      · exact hstep s (List.mem_cons_self ..) st h
      · exact h

theorem mergeSessions_nodup (l st : List SessionMD) (hk : (st.map (·.id)).Nodup) :
    ((mergeSessions l st).map (·.id)).Nodup :=
  mergeSessions_preserves (fun st => (st.map (·.id)).Nodup) l (fun s _ st => sessSet_nodup s st) st hk

theorem mem_iff_sessLookup (st : List SessionMD) (hk : (st.map (·.id)).Nodup) (s : SessionMD) :
    s ∈ st ↔ sessLookup s.id st = some s := by
  induction st with
  | nil => simp [sessLookup]
  | cons x rest ih =>
    simp only [List.map_cons, List.nodup_cons] at hk
    simp only [sessLookup, List.mem_cons]
    split
    · rename_i h
      constructor
      · rintro (e | e)
        · simp [e]
        · exfalso; apply hk.1; rw [h]; exact List.mem_map_of_mem e
      · intro e; left; simpa using e.symm
    · rename_i h
      rw [← ih hk.2]
      constructor
      · rintro (e | e)
        · exact absurd (by rw [e]) h
        · exact e
      · intro e; right; exact e

/-! ## subscriptions -/

theorem subsAssign_eq_kset (pat : String) (l : List Sub) (m : List (String × List Sub)) :
    subsAssign pat l m = kset Prod.fst (pat, l) m := by
  induction m with
  | nil => rfl
  | cons kl rest ih =>
    obtain ⟨k, l'⟩ := kl
    rw [subsAssign, kset, ih]

theorem subsLookup_eq_find (pat : String) (m : List (String × List Sub)) :
    subsLookup pat m = ((m.find? (fun kl => kl.1 = pat)).map (·.2)).getD [] := by
  induction m with
  | nil => rfl
  | cons kl rest ih =>
    obtain ⟨k, l⟩ := kl
    rw [subsLookup, List.find?_cons, ih]
    by_cases h : k = pat <;> simp [h]

theorem subsLookup_subsAssign (pat : String) (l : List Sub) (m : List (String × List Sub)) (pat' : String) :
    subsLookup pat' (subsAssign pat l m) = if pat = pat' then l else subsLookup pat' m := by
  rw [subsLookup_eq_find, subsLookup_eq_find, subsAssign_eq_kset, find?_kset]
  split <;> rfl

theorem subsAssign_mem {q : String} {v : List Sub} {m : List (String × List Sub)} {kl : String × List Sub}
    (h : kl ∈ subsAssign q v m) : kl = (q, v) ∨ kl ∈ m :=
  mem_kset Prod.fst (q, v) (subsAssign_eq_kset q v m ▸ h)

theorem subsAssign_nodup (q : String) (v : List Sub) (m : List (String × List Sub))
    (h : (m.map (·.1)).Nodup) : ((subsAssign q v m).map (·.1)).Nodup := by
  rw [subsAssign_eq_kset]
  exact kset_nodup Prod.fst (q, v) h

theorem subListSet_cons (s x : Sub) (rest : List Sub) :
    subListSet s (x :: rest) =
      if x.session = s.session then
        if isOutdated x.stamp s.stamp = true then (s :: rest, true)
        else (x :: (subListSet s rest).1, true)
      else (x :: (subListSet s rest).1, (subListSet s rest).2) := by
  simp only [subListSet]

def subFind (sess : String) (L : List Sub) : Option Sub := L.find? (fun s => s.session == sess)

theorem subEntry_eq (m : List (String × List Sub)) (pattern session : String) :
    subEntry m pattern session = subFind session (subsLookup pattern m) := rfl

theorem subFind_cons (sess : String) (x : Sub) (L : List Sub) :
    subFind sess (x :: L) = if x.session = sess then some x else subFind sess L := by
  unfold subFind
  rw [List.find?_cons]
  by_cases h : x.session = sess
  · rw [if_pos h, beq_iff_eq.mpr h]
  · rw [if_neg h, beq_eq_false_iff_ne.mpr h]

theorem subFind_subListSet_ne (s : Sub) (L : List Sub) (sess : String) (h : s.session ≠ sess) :
    subFind sess (subListSet s L).1 = subFind sess L := by
  induction L with
  | nil => rfl
  | cons x rest ih =>
    rw [subListSet_cons]
    split
    · rename_i hx
      have hne : ¬ x.session = sess := fun e => h (hx ▸ e)
      split
      · rw [subFind_cons, subFind_cons, if_neg h, if_neg hne]
      · rw [subFind_cons, subFind_cons, ih]
    · rw [subFind_cons, subFind_cons, ih]

/-- the list stored under `s.pattern` after `subsSet s` -/
def subsSetList (s : Sub) (m : List (String × List Sub)) : List Sub :=
  if (subListSet s (subsLookup s.pattern m)).2 then (subListSet s (subsLookup s.pattern m)).1
  else (subListSet s (subsLookup s.pattern m)).1 ++ [s]

/-- (`_sy`: the form the sync and broker proofs use, see Proofs/DistSync) -/
theorem subsSet_eq_sy (s : Sub) (m : List (String × List Sub)) :
    subsSet s m = subsAssign s.pattern (subsSetList s m) m := by
  simp only [subsSet, subsSetList]

theorem subFind_subsSetList (s : Sub) (m : List (String × List Sub)) (sess : String) :
    subFind sess (subsSetList s m) =
      if s.session = sess then lwwStep Sub.ts (subEntry m s.pattern sess) s
      else subEntry m s.pattern sess := by
  unfold subsSetList
  rw [subEntry_eq]
  generalize subsLookup s.pattern m = L
  by_cases hs : s.session = sess
  · subst hs
    rw [if_pos rfl]
    induction L with
    | nil => exact (subFind_cons s.session s []).trans (if_pos rfl)
    | cons x rest ih =>
      rw [subListSet_cons, subFind_cons s.session x rest]
      by_cases hx : x.session = s.session
      · rw [if_pos hx, if_pos hx]
        by_cases ho : isOutdated x.stamp s.stamp = true
        · rw [if_pos ho]
          exact (subFind_cons _ s rest).trans ((if_pos rfl).trans (if_pos (of_decide_eq_true ho)).symm)
        · rw [if_neg ho]
          exact (subFind_cons _ x _).trans
            ((if_pos hx).trans (if_neg (fun h => ho (decide_eq_true h))).symm)
      · rw [if_neg hx, if_neg hx]
        show subFind s.session (if (subListSet s rest).2 = true then x :: (subListSet s rest).1
          else x :: ((subListSet s rest).1 ++ [s])) = _
        rw [← apply_ite (List.cons x), subFind_cons, if_neg hx]
        exact ih
  · rw [if_neg hs]
    have := subFind_subListSet_ne s L sess hs
    split
    · exact this
    · simp only [subFind] at this ⊢
      simp [List.find?_append, this, hs]

theorem subEntry_subsSet (s : Sub) (m : List (String × List Sub)) (pat sess : String) :
    subEntry (subsSet s m) pat sess =
      if s.pattern = pat ∧ s.session = sess then lwwStep Sub.ts (subEntry m pat sess) s
      else subEntry m pat sess := by
  rw [subEntry_eq, subsSet_eq_sy, subsLookup_subsAssign]
  by_cases hp : s.pattern = pat
  · subst hp
    simp only [if_true, true_and, subFind_subsSetList]
  · simp only [hp, if_false, false_and]
    rfl

theorem mergeSubs_cons (s : Sub) (rest : List Sub) (m : List (String × List Sub)) :
    mergeSubs (s :: rest) m =
      if s.session = "" ∨ s.pattern = "" then m else mergeSubs rest (subsSet s m) := rfl

theorem mergeSubs_cons_valid (s : Sub) (rest : List Sub) (m : List (String × List Sub)) (h : validSub s) :
    mergeSubs (s :: rest) m = mergeSubs rest (subsSet s m) :=
  if_neg (fun e => e.elim h.1 h.2)

theorem mergeSubs_append (a b : List Sub) (m : List (String × List Sub))
    (ha : ∀ s ∈ a, s.session ≠ "" ∧ s.pattern ≠ "") :
    mergeSubs (a ++ b) m = mergeSubs b (mergeSubs a m) := by
  induction a generalizing m with
  | nil => rfl
  | cons s rest ih =>
    have hs := ha s (List.mem_cons_self ..)
    rw [List.cons_append, mergeSubs_cons_valid _ _ _ hs, mergeSubs_cons_valid _ _ _ hs]
    exact ih _ (fun x hx => ha x (List.mem_cons_of_mem _ hx))

theorem mergeSubs_preserves (P : List (String × List Sub) → Prop) (l : List Sub)
    (hstep : ∀ s ∈ l, ∀ m, P m → P (subsSet s m)) : ∀ m, P m → P (mergeSubs l m) := by
  induction l with
  | nil => exact fun m h => h
  | cons s rest ih =>
    intro m h
    rw [mergeSubs_cons]
    split
    · exact h
    · exact ih (fun x hx => hstep x (List.mem_cons_of_mem _ hx)) _ (hstep s (List.mem_cons_self ..) m h)

theorem subEntry_mergeSubs (l : List Sub) (hv : ∀ s ∈ l, s.session ≠ "" ∧ s.pattern ≠ "")
    (pat sess : String) : ∀ m, subEntry (mergeSubs l m) pat sess =
      lwwFold Sub.ts (subEntry m pat sess)
        (l.filter (fun s => decide (s.pattern = pat ∧ s.session = sess))) := by
  induction l with
  | nil => intro m; simp [mergeSubs, lwwFold]
  | cons s rest ih =>
    intro m
    rw [mergeSubs_cons_valid _ _ _ (hv s (List.mem_cons_self ..)),
      ih (fun x hx => hv x (List.mem_cons_of_mem _ hx)), subEntry_subsSet]
    by_cases hid : s.pattern = pat ∧ s.session = sess
    · simp [hid, lwwFold_cons]
    · simp [hid]

/-! ## topic names: `levels` is injective, and a wildcard-free filter matches only itself -/

theorem next_none (t tok : List Char) (h : next t = (none, tok)) : tok = t := by
  induction t generalizing tok with
  | nil => simp [next] at h; exact h
  | cons c cs ih =>
    simp only [next] at h
    split at h
    · simp at h
    · cases hn : next cs with
      | mk r tk =>
        rw [hn] at h
        simp only [Prod.mk.injEq] at h
        obtain ⟨h1, h2⟩ := h
        subst h1
        rw [← h2, ih tk hn]

theorem next_some (t rest tok : List Char) (h : next t = (some rest, tok)) :
    t = tok ++ '/' :: rest := by
  induction t generalizing tok with
  | nil => simp [next] at h
  | cons c cs ih =>
    simp only [next] at h
    split at h
    · rename_i hc
      simp only [Prod.mk.injEq, Option.some.injEq] at h
      obtain ⟨h1, h2⟩ := h
      subst h1 h2 hc
      simp
    · cases hn : next cs with
      | mk r tk =>
        rw [hn] at h
        simp only [Prod.mk.injEq] at h
        obtain ⟨h1, h2⟩ := h
        subst h1
        rw [← h2, ih tk hn]
        simp

/-- the levels put back together with '/' between them -/
def joinL : List Level → List Char
  | [] => []
  | a :: rest => a.toList ++ (if rest = [] then [] else '/' :: joinL rest)

theorem levelsAux_ne_nil (fuel : Nat) (t : List Char) : levelsAux (fuel + 1) t ≠ [] := by
  simp only [levelsAux]
  split <;> simp

theorem joinL_levelsAux (fuel : Nat) : ∀ (t : List Char), t.length < fuel →
    joinL (levelsAux fuel t) = t := by
  induction fuel with
  | zero => intro t h; omega
  | succ f ih =>
    intro t h
    simp only [levelsAux]
    split
    · rename_i tok hn
      simp [joinL, next_none t tok hn]
    · rename_i rest tok hn
      have ht := next_some t rest tok hn
      have hlen : rest.length < f := by
        have := congrArg List.length ht
        simp at this
        omega
      have hne : levelsAux f rest ≠ [] := by
        cases f with
        | zero => omega
        | succ f' => exact levelsAux_ne_nil f' rest
      simp only [joinL, hne, if_false, ih rest hlen, String.toList_ofList]
      exact ht.symm

theorem joinL_levels (s : String) : joinL (levels s) = s.toList := by
  unfold levels
  apply joinL_levelsAux
  simp [String.length_toList]

theorem levels_inj {s₁ s₂ : String} (h : levels s₁ = levels s₂) : s₁ = s₂ := by
  apply String.toList_inj.mp
  rw [← joinL_levels, ← joinL_levels, h]

theorem mqttMatch_name (f : List Level) (hf : ∀ l ∈ f, l ≠ "+" ∧ l ≠ "#") :
    ∀ t, mqttMatch f t = true ↔ f = t := by
  induction f with
  | nil => intro t; cases t <;> simp [mqttMatch]
  | cons a fs ih =>
    intro t
    have ha := hf a (by simp)
    have ih' := ih (fun l hl => hf l (by simp [hl]))
    cases t with
    | nil => simp [mqttMatch, ha.2]
    | cons b ts => simp [mqttMatch, ha.1, ha.2, ih']

theorem wfTopic_name (f : List Level) (h : wfTopic f = true) : ∀ l ∈ f, l ≠ "+" ∧ l ≠ "#" := by
  simp only [wfTopic, Bool.and_eq_true, List.all_eq_true, bne_iff_ne, ne_eq] at h
  exact h.1

theorem mqttMatch_levels_name (t k : String) (ht : wfTopic (levels t) = true) :
    mqttMatch (levels t) (levels k) = true ↔ t = k := by
  rw [mqttMatch_name _ (wfTopic_name _ ht)]
  exact ⟨levels_inj, fun h => by rw [h]⟩

/-! ## retained messages -/

theorem topicsAssign_eq_kset (t : String) (r : Retained) (m : List (String × Retained)) :
    topicsAssign t r m = kset Prod.fst (t, r) m := by
  induction m with
  | nil => rfl
  | cons kr rest ih =>
    obtain ⟨k, r'⟩ := kr
    rw [topicsAssign, kset, ih]

theorem retEntry_topicsAssign (t : String) (r : Retained) (m : List (String × Retained)) (topic : String) :
    retEntry (topicsAssign t r m) topic = if t = topic then some r else retEntry m topic := by
  show ((topicsAssign t r m).find? (fun kr => kr.1 = topic)).map (·.2) =
    if t = topic then some r else (m.find? (fun kr => kr.1 = topic)).map (·.2)
  rw [topicsAssign_eq_kset, find?_kset]
  split <;> rfl

theorem topicsAssign_mem {q : String} {v : Retained} {m : List (String × Retained)} {kl : String × Retained}
    (h : kl ∈ topicsAssign q v m) : kl = (q, v) ∨ kl ∈ m :=
  mem_kset Prod.fst (q, v) (topicsAssign_eq_kset q v m ▸ h)

theorem topicsAssign_nodup (t : String) (r : Retained) (m : List (String × Retained))
    (hk : (m.map (·.1)).Nodup) : ((topicsAssign t r m).map (·.1)).Nodup := by
  rw [topicsAssign_eq_kset]
  exact kset_nodup Prod.fst (t, r) hk

theorem retEntry_none {m : List (String × Retained)} {t : String} :
    retEntry m t = none ↔ t ∉ m.map (·.1) := by
  simp only [retEntry, Option.map_eq_none_iff, List.find?_eq_none, beq_iff_eq, List.mem_map, not_exists,
    not_and]

/-- on a store with unique keys, `get` with a topic NAME is the exact lookup -/
theorem topicsGetAll_name (m : List (String × Retained)) (hk : (m.map (·.1)).Nodup) (t : String)
    (ht : wfTopic (levels t) = true) : topicsGetAll m t = (retEntry m t).toList := by
  induction m with
  | nil => simp [topicsGetAll, retEntry]
  | cons kr rest ih =>
    obtain ⟨k, r'⟩ := kr
    simp only [List.map_cons, List.nodup_cons] at hk
    have ih' := ih hk.2
    simp only [topicsGetAll, retEntry] at ih' ⊢
    by_cases hkt : k = t
    · subst hkt
      have hm : mqttMatch (levels k) (levels k) = true := (mqttMatch_levels_name k k ht).mpr rfl
      have hnone : retEntry rest k = none := retEntry_none.mpr hk.1
      simp only [retEntry, Option.map_eq_none_iff] at hnone
      rw [hnone] at ih'
      simp only [Option.map_none, Option.toList_none] at ih'
      simp [hm, ih']
    · have hm : ¬ mqttMatch (levels t) (levels k) = true := by
        rw [mqttMatch_levels_name t k ht]; exact fun e => hkt e.symm
      simp [hm, hkt, ih']

/-- one iteration of the mergeMessages loop on a valid entry -/
def retStep (r : Retained) (m : List (String × Retained)) : List (String × Retained) :=
  if lwwOutdated Retained.ts (retEntry m r.topic) r = true then topicsAssign r.topic r m else m

theorem mergeRetained_cons (r : Retained) (rest : List Retained) (m : List (String × Retained))
    (hr : validRetained r) (hk : (m.map (·.1)).Nodup) :
    mergeRetained (r :: rest) m = mergeRetained rest (retStep r m) := by
  obtain ⟨h1, h2, h3, h4⟩ := hr
  have h4' : (isAdded r.stamp || isRemoved r.stamp) = true := by simpa using h4
  have hpub : ¬ ((!r.hasPublish) = true ∨ r.topic = "") := by simp [h1, h2]
  rw [mergeRetained, if_neg hpub, topicsGetAll_name m hk r.topic h3, retStep]
  simp only [h4', Bool.and_true]
  cases retEntry m r.topic <;> rfl

theorem retStep_nodup (r : Retained) (m : List (String × Retained)) (hk : (m.map (·.1)).Nodup) :
    ((retStep r m).map (·.1)).Nodup := by
  unfold retStep
  split
  · exact topicsAssign_nodup _ _ _ hk
  · exact hk

theorem mergeRetained_preserves (P : List (String × Retained) → Prop) (l : List Retained)
    (hstep : ∀ r ∈ l, ∀ m, P m → P (topicsAssign r.topic r m)) : ∀ m, P m → P (mergeRetained l m) := by
  induction l with
  | nil => exact fun m h => h
  | cons r rest ih =>
    intro m h
    have hr : ∀ (b : Bool), P (if b = true then topicsAssign r.topic r m else m) := by
      intro b
      split
      · exact hstep r (List.mem_cons_self ..) m h
      · exact h
    rw [mergeRetained]
    by_cases h1 : (!r.hasPublish) = true ∨ r.topic = ""
    · rw [if_pos h1]; exact h
    · rw [if_neg h1]
      show P (if (topicsGetAll m r.topic).length > 1 then m else mergeRetained rest _)
      by_cases h2 : (topicsGetAll m r.topic).length > 1
      · rw [if_pos h2]; exact h
      · rw [if_neg h2]
        exact ih (fun x hx => hstep x (List.mem_cons_of_mem _ hx)) _ (hr _)

theorem mergeRetained_nodup (l : List Retained) (m : List (String × Retained))
    (hk : (m.map (·.1)).Nodup) : ((mergeRetained l m).map (·.1)).Nodup :=
  mergeRetained_preserves (fun m => (m.map (·.1)).Nodup) l (fun r _ m => topicsAssign_nodup _ r m) m hk

theorem mergeRetained_append (a b : List Retained) (ha : ∀ r ∈ a, validRetained r) :
    ∀ (m : List (String × Retained)), (m.map (·.1)).Nodup →
      mergeRetained (a ++ b) m = mergeRetained b (mergeRetained a m) := by
  induction a with
  | nil => intro m _; simp [mergeRetained]
  | cons r rest ih =>
    intro m hk
    have hr := ha r (by simp)
    rw [List.cons_append, mergeRetained_cons _ _ _ hr hk, mergeRetained_cons _ _ _ hr hk]
    exact ih (fun x hx => ha x (by simp [hx])) _ (retStep_nodup r m hk)

theorem retEntry_retStep (r : Retained) (m : List (String × Retained)) (topic : String) :
    retEntry (retStep r m) topic =
      if r.topic = topic then lwwStep Retained.ts (retEntry m topic) r else retEntry m topic := by
  unfold retStep
  by_cases hid : r.topic = topic
  · subst hid
    rw [if_pos rfl, lwwStep_eq]
    split
    · rw [retEntry_topicsAssign, if_pos rfl]
    · rfl
  · rw [if_neg hid]
    split
    · rw [retEntry_topicsAssign, if_neg hid]
    · rfl

theorem retEntry_mergeRetained (l : List Retained) (hv : ∀ r ∈ l, validRetained r) (topic : String) :
    ∀ (m : List (String × Retained)), (m.map (·.1)).Nodup →
      retEntry (mergeRetained l m) topic =
        lwwFold Retained.ts (retEntry m topic) (l.filter (fun r => decide (r.topic = topic))) := by
  induction l with
  | nil => intro m _; simp [mergeRetained, lwwFold]
  | cons r rest ih =>
    intro m hk
    rw [mergeRetained_cons _ _ _ (hv r (by simp)) hk,
      ih (fun x hx => hv x (by simp [hx])) _ (retStep_nodup r m hk), retEntry_retStep]
    by_cases hid : r.topic = topic
    · simp [hid, lwwFold_cons]
    · simp [hid]

end Wasp.Dist
