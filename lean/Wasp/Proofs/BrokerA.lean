import Wasp.Proofs.BrokerSteps
import Wasp.Proofs.Generated
import Wasp.Proofs.Dist
/-!
For Properties/C13 and Properties/C17: the strings of mount points (`prefixMountPoint`, `levels`, `trimMountPoint`);
`WFrame F`, an observation `F` of every node unchanged, through the writer and the publish job; what `send` writes
(`send_out`); the log of a node after `notifyLeave`.
-/
namespace Wasp.Broker.AgentA
open Wasp.Dist Wasp.Topic Wasp.Broker

theorem slash_toList : ("/" : String).toList = ['/'] := by decide

theorem prefix_toList (m t : String) : (prefixMountPoint m t).toList = m.toList ++ '/' :: t.toList := by
  simp [prefixMountPoint, String.toList_append, slash_toList]

theorem prefix_length (m t : String) : (prefixMountPoint m t).length = m.length + 1 + t.length := by
  rw [← String.length_toList, prefix_toList]
  simp [String.length_toList]
  omega

theorem next_split (a b : List Char) (h : '/' ∉ a) : next (a ++ '/' :: b) = (some b, a) := by
  induction a with
  | nil => simp [next]
  | cons c cs ih =>
    have hc : c ≠ '/' := by intro e; apply h; simp [e]
    have hcs : '/' ∉ cs := by intro e; apply h; simp [e]
    simp [next, hc, ih hcs]

theorem levelsAux_fuel (f : Nat) : ∀ (g : Nat) (t : List Char), t.length < f → t.length < g →
    levelsAux f t = levelsAux g t := by
  induction f with
  | zero => intro g t h; omega
  | succ f ih =>
    intro g t hf hg
    cases g with
    | zero => omega
    | succ g =>
      simp only [levelsAux]
      cases hn : next t with
      | mk r tok =>
        cases r with
        | none => rfl
        | some rest =>
          have ht := next_some t rest tok hn
          have hlen : t.length = tok.length + 1 + rest.length := by
            have := congrArg List.length ht
            simp at this
            omega
          simp only
          rw [ih g rest (by omega) (by omega)]

theorem levelsAux_succ_some (f : Nat) (t r tok : List Char) (h : next t = (some r, tok)) :
    levelsAux (f + 1) t = String.ofList tok :: levelsAux f r := by
  simp only [levelsAux, h]

theorem levels_prefix (m t : String) (hm : '/' ∉ m.toList) :
    levels (prefixMountPoint m t) = m :: levels t := by
  unfold levels
  rw [prefix_toList, prefix_length, levelsAux_succ_some _ _ _ _ (next_split _ _ hm), String.ofList_toList]
  congr 1
  apply levelsAux_fuel <;> simp [String.length_toList] <;> omega

theorem trim_prefix (m t : String) : trimMountPoint m (prefixMountPoint m t) = t := by
  unfold trimMountPoint
  rw [prefix_toList]
  have : m.length + 1 = (m.toList ++ ['/']).length := by simp [String.length_toList]
  rw [this, show m.toList ++ '/' :: t.toList = (m.toList ++ ['/']) ++ t.toList by simp, List.drop_left]
  exact String.ofList_toList

theorem match_cons_lit (m₁ m₂ : String) (fs ts : List Level) (h1 : m₁ ≠ "+") (h2 : m₁ ≠ "#") :
    mqttMatch (m₁ :: fs) (m₂ :: ts) = ((m₁ == m₂) && mqttMatch fs ts) := by
  have e1 : (m₁ == "+") = false := by simpa using h1
  have e2 : (m₁ == "#") = false := by simpa using h2
  simp [mqttMatch, e1, e2]

/-- `w'` has as many nodes as `w`, and the observation `F` of every node is unchanged -/
def WFrame {α : Type} (F : Node → α) (w w' : World) : Prop :=
  w'.nodes.length = w.nodes.length ∧ ∀ j, F (w'.node j) = F (w.node j)

theorem WFrame.refl {α : Type} (F : Node → α) (w : World) : WFrame F w w := ⟨rfl, fun _ => rfl⟩

theorem WFrame.trans {α : Type} {F : Node → α} {w₁ w₂ w₃ : World}
    (h₁ : WFrame F w₁ w₂) (h₂ : WFrame F w₂ w₃) : WFrame F w₁ w₃ :=
  ⟨h₂.1.trans h₁.1, fun j => (h₂.2 j).trans (h₁.2 j)⟩

/-- composition, last step first (so that the intermediate world is found by unification) -/
theorem WFrame.after {α : Type} {F : Node → α} {w₁ w₂ w₃ : World}
    (h₂ : WFrame F w₂ w₃) (h₁ : WFrame F w₁ w₂) : WFrame F w₁ w₃ := h₁.trans h₂

theorem WFrame.of_nodes {α : Type} (F : Node → α) {w w' : World} (h : w'.nodes = w.nodes) : WFrame F w w' :=
  ⟨by rw [h], fun j => by simp [World.node, h]⟩

theorem WFrame.setNode {α : Type} {F : Node → α} (w : World) (i : Nat) (n : Node)
    (h : F n = F (w.node i)) : WFrame F w (w.setNode i n) := by
  refine ⟨setNode_length _ _ _, fun j => ?_⟩
  rw [node_setNode]
  split
  · rename_i hc; rw [hc.1]; exact h
  · rfl

theorem WFrame.emit {α : Type} (F : Node → α) (w : World) (c : String) (p : Pkt) : WFrame F w (w.emit c p) :=
  WFrame.of_nodes F rfl

/-- observations of a node that do not depend on the fields the writer and the replicated-state
    operations touch -/
structure NFrame {α : Type} (F : Node → α) : Prop where
  dist : ∀ (n : Node) d, F { n with dist := d } = F n
  pending : ∀ (n : Node) p, F { n with pending := p } = F n
  setSess : ∀ (n : Node) s, F (n.setSess s) = F n
  acks : ∀ (n : Node) a st, F { n with acks := a, stored := st } = F n
  pool : ∀ (n : Node) p, F { n with pool := p } = F n

theorem NFrame.log : NFrame (fun n : Node => n.log) := ⟨fun _ _ => rfl, fun _ _ => rfl, fun _ _ => rfl, fun _ _ _ => rfl, fun _ _ => rfl⟩

theorem NFrame.logAll : NFrame (fun n : Node => (n.log, n.logFailAll, n.logFailAt)) :=
  ⟨fun _ _ => rfl, fun _ _ => rfl, fun _ _ => rfl, fun _ _ _ => rfl, fun _ _ => rfl⟩

theorem NFrame.ids : NFrame (fun n : Node => n.reg.map (·.id)) :=
  ⟨fun _ _ => rfl, fun _ _ => rfl, setSess_ids, fun _ _ _ => rfl, fun _ _ => rfl⟩

theorem appendLog_ids (n : Node) (p : Pub) : (n.appendLog p).1.reg.map (·.id) = n.reg.map (·.id) := by
  rw [appendLog_reg]

/-- the first step of `shutdownSession`: the session leaves the registry of node i -/
def regFiltered (w : World) (i : Nat) (id : String) : World :=
  w.setNode i { w.node i with reg := (w.node i).reg.filter (fun x => x.id != id) }

theorem regFiltered_log (w : World) (i : Nat) (id : String) :
    WFrame (fun n : Node => n.log) w (regFiltered w i id) :=
  WFrame.setNode w i _ rfl

theorem regFiltered_sess (w : World) (i : Nat) (id : String) (hi : i < w.nodes.length) :
    ((regFiltered w i id).node i).sess id = none := by
  unfold regFiltered
  rw [node_setNode_self _ _ _ hi, sess_eq_none_iff]
  simp

/-- observations of a node that the writer (`send` and what it calls) does not touch -/
structure SFrame {α : Type} (F : Node → α) : Prop where
  setSess : ∀ (n : Node) s, F (n.setSess s) = F n
  acks : ∀ (n : Node) a st, F { n with acks := a, stored := st } = F n
  pool : ∀ (n : Node) p, F { n with pool := p } = F n

section frames
variable {α : Type} {F : Node → α}

theorem NFrame.sframe (hF : NFrame F) : SFrame F := ⟨hF.setSess, hF.acks, hF.pool⟩

theorem broadcast_frame (hF : NFrame F) (w : World) (i : Nat) (ev : Event) : WFrame F w (w.broadcast i ev) := by
  unfold World.broadcast
  exact WFrame.setNode _ _ _ (hF.pending _ _)

theorem tick_frame (F : Node → α) (w : World) : WFrame F w w.tick.1 := WFrame.of_nodes F rfl

theorem distWrite_frame (hF : NFrame F) (w : World) (i : Nat) (d : State) (ev : Event) :
    WFrame F w ((w.tick.1.setNode i { w.tick.1.node i with dist := d }).broadcast i ev) :=
  WFrame.after (broadcast_frame hF _ _ _) (WFrame.after (WFrame.setNode _ _ _ (hF.dist _ _)) (tick_frame F w))

theorem subDelete_frame (hF : NFrame F) (w : World) (i : Nat) (sid pat : String) :
    WFrame F w (w.subDelete i sid pat) :=
  distWrite_frame hF w i _ _

theorem sessDelete_frame (hF : NFrame F) (w : World) (i : Nat) (sid : String) :
    WFrame F w (w.sessDelete i sid) := by
  unfold World.sessDelete
  simp only []
  split
  · exact distWrite_frame hF w i _ _
  · exact WFrame.after (WFrame.setNode _ _ _ (hF.dist _ _)) (tick_frame F w)

theorem foldl_frame {β : Type} (f : World → β → World) (hf : ∀ w b, WFrame F w (f w b)) (l : List β) (w : World) :
    WFrame F w (l.foldl f w) :=
  foldl_inv (WFrame F w) f l w (WFrame.refl F w) (fun b a _ hb => hb.trans (hf b a))

theorem extendDeadline_frame (hF : SFrame F) (w : World) (i : Nat) (sid : String) :
    WFrame F w (w.extendDeadline i sid) :=
  extendDeadline_of (P := WFrame F w) (WFrame.refl F w) (fun _ _ => WFrame.setNode _ _ _ (hF.setSess _ _))

theorem poolPut_frame (hF : SFrame F) (w : World) (i : Nat) (mid : Int) : WFrame F w (w.poolPut i mid) :=
  WFrame.setNode _ _ _ (hF.pool _ _)

theorem armAndSend_frame (hF : SFrame F) (w : World) (i : Nat) (st : Stored) : WFrame F w (w.armAndSend i st) :=
  armAndSend_of (P := WFrame F w) (h0 := WFrame.refl F w) (hd := extendDeadline_frame hF w i)
    (hw := fun sid _ _ _ _ _ _ _ => WFrame.after (WFrame.emit F _ _ _) (extendDeadline_frame hF w i sid))
    (ha := fun sid _ _ _ _ _ _ _ _ =>
      WFrame.after (WFrame.emit F _ _ _) (WFrame.after (WFrame.setNode _ _ _ (hF.acks _ _ _)) (extendDeadline_frame hF w i sid)))

theorem sendArmed_frame (hF : SFrame F) (w : World) (i : Nat) (st : Stored) (sid : String) (mid : Int) :
    WFrame F w (w.sendArmed i st sid mid) :=
  sendArmed_of (armAndSend_frame hF w i st) (fun _ => WFrame.after (poolPut_frame hF _ _ _) (armAndSend_frame hF w i st))

theorem send_frame (hF : SFrame F) (i : Nat) (p : Pub) (rcpt : List (String × Int)) (w : World) :
    WFrame F w (w.send i rcpt p) :=
  send_of (P := WFrame F w)
    (fun _ _ _ _ h => WFrame.after (WFrame.emit F _ _ _) (WFrame.after (extendDeadline_frame hF _ _ _) h))
    (fun _ _ _ _ _ _ h => WFrame.after (sendArmed_frame hF _ _ _ _ _) (WFrame.after (WFrame.setNode _ _ _ (hF.pool _ _)) h))
    rcpt w (WFrame.refl F w)

theorem deliverLocal_frame (hF : SFrame F) (w : World) (j : Nat) (p : Pub) : WFrame F w (w.deliverLocal j p) :=
  send_frame hF _ _ _ _

theorem distribute_frame (hF : SFrame F) (hlog : ∀ (n : Node) p, F (n.appendLog p).1 = F n)
    (w : World) (i : Nat) (p : Pub) : WFrame F w (w.distribute i p).1 :=
  distribute_of (P := WFrame F w) (fun _ _ _ h => WFrame.after (WFrame.setNode _ _ _ (hlog _ _)) h)
    (fun _ _ _ h => WFrame.after (deliverLocal_frame hF _ _ _) h) (WFrame.refl F w) i p

theorem retainStep_frame (hF : NFrame F) (w : World) (i : Nat) (p : Pub) : WFrame F w (retainStep w i p) := by
  unfold retainStep
  split
  · exact distWrite_frame hF w i _ _
  · exact WFrame.refl F w

theorem publishJob_frame (hF : NFrame F) (hlog : ∀ (n : Node) p, F (n.appendLog p).1 = F n)
    (w : World) (i : Nat) (p : Pub) : WFrame F w (w.publishJob i p id) := by
  rw [publishJob_eq]
  have h := (retainStep_frame hF w i p).trans (distribute_frame hF.sframe hlog _ i { p with retain := false })
  split
  · exact h
  · exact h

end frames

/-- every session registered on node i of `w'` is, up to fields other than `conn`/`mount`, registered in `w` -/
def SessLe (i : Nat) (w w' : World) : Prop :=
  ∀ sid s', (w'.node i).sess sid = some s' → ∃ s, (w.node i).sess sid = some s ∧ s.conn = s'.conn ∧ s.mount = s'.mount

theorem SessLe.refl (i : Nat) (w : World) : SessLe i w w := fun _ s' h => ⟨s', h, rfl, rfl⟩

theorem SessLe.trans {i : Nat} {w₁ w₂ w₃ : World} (h₁ : SessLe i w₁ w₂) (h₂ : SessLe i w₂ w₃) : SessLe i w₁ w₃ := by
  intro sid s₃ h
  obtain ⟨s₂, h2, c2, m2⟩ := h₂ sid s₃ h
  obtain ⟨s₁, h1, c1, m1⟩ := h₁ sid s₂ h2
  exact ⟨s₁, h1, c1.trans c2, m1.trans m2⟩

theorem SessLe.after {i : Nat} {w₁ w₂ w₃ : World} (h₂ : SessLe i w₂ w₃) (h₁ : SessLe i w₁ w₂) : SessLe i w₁ w₃ :=
  h₁.trans h₂

theorem SessLe.of_reg {i : Nat} {w w' : World} (h : (w'.node i).reg = (w.node i).reg) : SessLe i w w' := by
  intro sid s' hs
  refine ⟨s', ?_, rfl, rfl⟩
  unfold Node.sess at hs ⊢
  rw [← h]; exact hs

theorem SessLe.of_frame {i : Nat} {w w' : World} (h : WFrame (fun n : Node => n.reg) w w') : SessLe i w w' :=
  SessLe.of_reg (h.2 i)

theorem sess_setSess (n : Node) (sid : String) (s s' : Sess) (hs : n.sess sid = some s) (hid : s'.id = s.id)
    (sid' : String) (x' : Sess) (hx : (n.setSess s').sess sid' = some x') :
    ∃ x, n.sess sid' = some x ∧ (x' = x ∨ (x = s ∧ x' = s')) := by
  cases hf : n.sess sid' with
  | none => rw [setSess_sess, hf] at hx; cases hx
  | some x =>
    rw [sess_setSess_fwd n s' sid' x hf] at hx
    have hx := (Option.some.inj hx).symm
    refine ⟨x, rfl, ?_⟩
    split at hx
    · rename_i hxi
      have : sid' = sid := by rw [← sess_some_id hf, beq_iff_eq.mp hxi, hid, sess_some_id hs]
      subst this
      rw [hs] at hf
      exact .inr ⟨(Option.some.inj hf).symm, hx⟩
    · exact .inl hx

theorem extendDeadline_sessLe (w : World) (i : Nat) (sid : String) : SessLe i w (w.extendDeadline i sid) := by
  unfold World.extendDeadline
  simp only []
  cases hs : (w.node i).sess sid with
  | none => exact SessLe.refl i w
  | some s =>
    simp only []
    by_cases hi : i < w.nodes.length
    · intro sid' x' hx
      rw [node_setNode_self _ _ _ hi] at hx
      obtain ⟨x, hx1, hx2⟩ := sess_setSess _ sid s _ hs (by rfl) sid' x' hx
      refine ⟨x, hx1, ?_⟩
      rcases hx2 with h | ⟨h1, h2⟩
      · subst h; exact ⟨rfl, rfl⟩
      · subst h1 h2; exact ⟨rfl, rfl⟩
    · exact SessLe.of_reg (by rw [node_setNode_ge _ _ _ _ hi])

theorem poolPut_sessLe (w : World) (i : Nat) (mid : Int) : SessLe i w (w.poolPut i mid) :=
  SessLe.of_frame (WFrame.setNode (F := fun n : Node => n.reg) w i _ rfl)

theorem poolPut_out (w : World) (i : Nat) (mid : Int) : (w.poolPut i mid).out = w.out := rfl

theorem armAndSend_spec (w : World) (i : Nat) (st : Stored) {sid : String} {kind : Ack.PType} {qos : Nat} {mid : Int} {pk : Pkt}
    (h : st.arm = some (sid, kind, qos, mid, pk)) :
    SessLe i w (w.armAndSend i st) ∧
    ((w.armAndSend i st).out = w.out ∨
      ∃ s, (w.node i).sess sid = some s ∧ (w.armAndSend i st).out = w.out ++ [(s.conn, pk)]) := by
  refine armAndSend_of
    (P := fun w' => SessLe i w w' ∧ (w'.out = w.out ∨ ∃ s, (w.node i).sess sid = some s ∧ w'.out = w.out ++ [(s.conn, pk)]))
    (h0 := ⟨SessLe.refl i w, Or.inl rfl⟩) (hd := fun x => ⟨extendDeadline_sessLe w i x, Or.inl (extendDeadline_out w i x)⟩)
    (hw := ?_) (ha := ?_)
  · intro sid' _ _ _ pk' s h' hs
    rw [h] at h'
    cases h'
    exact ⟨SessLe.after (SessLe.of_reg rfl) (extendDeadline_sessLe w i sid),
      Or.inr ⟨s, hs, by simp [World.emit, extendDeadline_out]⟩⟩
  · intro sid' _ _ _ pk' s h' hs _
    rw [h] at h'
    cases h'
    exact ⟨SessLe.after (SessLe.of_reg rfl) (SessLe.after (SessLe.of_frame (WFrame.setNode _ _ _ rfl)) (extendDeadline_sessLe w i sid)),
      Or.inr ⟨s, hs, by simp [World.emit, World.setNode, extendDeadline_out]⟩⟩

theorem sendArmed_spec (w : World) (i : Nat) (st : Stored) (x : String) (m : Int) {sid : String} {kind : Ack.PType} {qos : Nat}
    {mid : Int} {pk : Pkt} (h : st.arm = some (sid, kind, qos, mid, pk)) :
    SessLe i w (w.sendArmed i st x m) ∧
    ((w.sendArmed i st x m).out = w.out ∨
      ∃ s, (w.node i).sess sid = some s ∧ (w.sendArmed i st x m).out = w.out ++ [(s.conn, pk)]) := by
  obtain ⟨h1, h2⟩ := armAndSend_spec w i st h
  exact sendArmed_of
    (P := fun w' => SessLe i w w' ∧ (w'.out = w.out ∨ ∃ s, (w.node i).sess sid = some s ∧ w'.out = w.out ++ [(s.conn, pk)]))
    ⟨h1, h2⟩ (fun _ => ⟨SessLe.after (poolPut_sessLe _ _ _) h1, by rw [poolPut_out]; exact h2⟩)

/-- the conclusion of C17_send_topic for recipient list `rcpt`, sessions looked up in `w` -/
def SendGoal (w : World) (i : Nat) (rcpt : List (String × Int)) (p : Pub) (conn : String) (pk : Pkt) : Prop :=
  ∃ sid s, (sid ∈ rcpt.map (·.1)) ∧ (w.node i).sess sid = some s ∧ s.conn = conn ∧
    ∃ q mid, pk = .publish (trimMountPoint s.mount p.topic) p.payload q p.retain p.dup mid

theorem SendGoal.tail {w : World} {i : Nat} {hd : String × Int} {rest : List (String × Int)} {p : Pub} {conn : String} {pk : Pkt}
    (h : SendGoal w i rest p conn pk) : SendGoal w i (hd :: rest) p conn pk := by
  obtain ⟨sid, s, h1, h2⟩ := h
  exact ⟨sid, s, by simp only [List.map_cons, List.mem_cons]; exact Or.inr h1, h2⟩

theorem send_step (w w1 : World) (i : Nat) (sid : String) (qos : Int) (s : Sess) (p : Pub) (rest : List (String × Int))
    (conn : String) (pk : Pkt) (hs : (w.node i).sess sid = some s) (hle : SessLe i w w1)
    (hout : w1.out = w.out ∨ ∃ q mid, w1.out = w.out ++ [(s.conn, .publish (trimMountPoint s.mount p.topic) p.payload q p.retain p.dup mid)])
    (ih : (conn, pk) ∈ (w1.send i rest p).out → (conn, pk) ∉ w1.out → SendGoal w1 i rest p conn pk)
    (h : (conn, pk) ∈ (w1.send i rest p).out) (hnew : (conn, pk) ∉ w.out) :
    SendGoal w i ((sid, qos) :: rest) p conn pk := by
  by_cases hin : (conn, pk) ∈ w1.out
  · rcases hout with e | ⟨q, mid, e⟩
    · rw [e] at hin; exact absurd hin hnew
    · rw [e, List.mem_append] at hin
      rcases hin with hin | hin
      · exact absurd hin hnew
      · simp only [List.mem_singleton, Prod.mk.injEq] at hin
        exact ⟨sid, s, by simp, hs, hin.1.symm, q, mid, hin.2⟩
  · obtain ⟨sid', s', h1, h2, h3, q, mid, h4⟩ := ih h hin
    obtain ⟨s0, g1, g2, g3⟩ := hle sid' s' h2
    refine ⟨sid', s0, by simp only [List.map_cons, List.mem_cons]; exact Or.inr h1, g1, g2.trans h3, q, mid, ?_⟩
    rw [g3]; exact h4

theorem send_out (i : Nat) (p : Pub) (conn : String) (pk : Pkt) (rcpt : List (String × Int)) :
    ∀ w : World, (conn, pk) ∈ (w.send i rcpt p).out → (conn, pk) ∉ w.out → SendGoal w i rcpt p conn pk := by
  induction rcpt with
  | nil => intro w h hnew; exact absurd h hnew
  | cons hd rest ih =>
    intro w h hnew
    obtain ⟨sid, qos⟩ := hd
    unfold World.send at h
    simp only [] at h
    cases hs : (w.node i).sess sid with
    | none =>
      simp only [hs] at h
      exact (ih w h hnew).tail
    | some s =>
      simp only [hs] at h
      split at h
      · refine send_step w _ i sid qos s p rest conn pk hs ?_ ?_ (ih _) h hnew
        · exact SessLe.after (SessLe.of_reg rfl) (extendDeadline_sessLe w i sid)
        · exact Or.inr ⟨0, 0, by simp [World.emit, extendDeadline_out]⟩
      · split at h
        · split at h
          · exact absurd h hnew
          · rename_i hq _
            have hfr : WFrame (fun n : Node => n.reg) w (w.setNode i { w.node i with pool := (IdPool.get (w.node i).pool).1 }) :=
              WFrame.setNode _ _ _ rfl
            have hs0 : ((w.setNode i { w.node i with pool := (IdPool.get (w.node i).pool).1 }).node i).sess sid = some s := by
              have := hfr.2 i
              simp only [] at this
              unfold Node.sess at hs ⊢
              rw [this]; exact hs
            obtain ⟨g1, g2⟩ := sendArmed_spec (w.setNode i { w.node i with pool := (IdPool.get (w.node i).pool).1 }) i
              (if qos = 1 then Stored.out1 sid (trimMountPoint s.mount p.topic) p.payload p.retain p.dup (IdPool.get (w.node i).pool).2
               else Stored.out2 sid (trimMountPoint s.mount p.topic) p.payload p.retain p.dup (IdPool.get (w.node i).pool).2)
              sid (IdPool.get (w.node i).pool).2 (sid := sid) (kind := .publish) (qos := if qos = 1 then 1 else 2)
              (mid := (IdPool.get (w.node i).pool).2)
              (pk := .publish (trimMountPoint s.mount p.topic) p.payload (if qos = 1 then 1 else 2) p.retain p.dup
                (IdPool.get (w.node i).pool).2)
              (by by_cases hq1 : qos = 1 <;> simp [hq1, Stored.arm])
            refine send_step w _ i sid qos s p rest conn pk hs (SessLe.after g1 (SessLe.of_frame hfr)) ?_ (ih _) h hnew
            rcases g2 with e | ⟨s1, e1, e2⟩
            · exact Or.inl e
            · rw [hs0] at e1
              cases e1
              exact Or.inr ⟨_, _, e2⟩
        · exact (ih w h hnew).tail

/-- the will of a listed session of the failed peer, as `notifyLeave` publishes it -/
def willPub (s : SessionMD) : Option Pub :=
  s.lwt.map (fun lwt => (⟨s.mount ++ "/" ++ lwt.topic, lwt.payload, lwt.qos, lwt.retain, false⟩ : Pub))

/-- the first step of `notifyLeave` -/
def leavePrefix (w : World) (i : Nat) (peer : Nat) : World :=
  let (w, t) := w.tick
  let n := w.node i
  let (d, ev) := subDeletePeer n.dist t peer
  (w.setNode i { n with dist := d }).broadcast i ev

/-- the loop body of `notifyLeave`, for one session of the peer that left -/
def leaveStep (i : Nat) (w : World) (s : SessionMD) : World :=
  match s.lwt with
  | none => w
  | some lwt =>
    let p : Pub := ⟨s.mount ++ "/" ++ lwt.topic, lwt.payload, lwt.qos, lwt.retain, false⟩
    let (n', stored) := (w.node i).appendLog p
    let w := w.setNode i n'
    if stored then w.deliverLocal i p else w

theorem notifyLeave_eq (w : World) (i : Nat) (peer : Nat) :
    w.notifyLeave i peer =
      (let W := leavePrefix w i peer
       let X := (sessByPeer (W.node i).dist peer).foldl (leaveStep i) W
       X.setNode i { X.node i with timers := (X.node i).timers ++ [(X.now + 3000, peer)] }) := rfl

theorem leavePrefix_spec (w : World) (i : Nat) (peer : Nat) (hi : i < w.nodes.length) :
    WFrame (fun n : Node => (n.log, n.logFailAll, n.logFailAt)) w (leavePrefix w i peer) ∧
    ((leavePrefix w i peer).node i).dist = (subDeletePeer (w.node i).dist w.clock peer).1 := by
  unfold leavePrefix
  simp only [World.tick]
  constructor
  · exact distWrite_frame NFrame.logAll w i _ _
  · unfold World.broadcast
    simp only []
    rw [node_setNode_self _ _ _ (by simpa using hi), node_setNode_self _ _ _ (by simpa using hi)]
    rfl

theorem log_setNode (w : World) (i : Nat) (n : Node) (j : Nat) (h : n.log = (w.node i).log) :
    ((w.setNode i n).node j).log = (w.node j).log :=
  (WFrame.setNode (F := fun n : Node => n.log) w i n h).2 j

theorem leaveStep_none (i : Nat) (w : World) (s : SessionMD) (h : s.lwt = none) : leaveStep i w s = w := by
  unfold leaveStep; simp only [h]

theorem leaveStep_some (i : Nat) (w : World) (s : SessionMD) (lwt : Will) (h : s.lwt = some lwt)
    (h1 : (w.node i).logFailAll = false) (h2 : (w.node i).logFailAt = []) :
    leaveStep i w s =
      (w.setNode i { w.node i with logCalls := (w.node i).logCalls + 1, log := (w.node i).log ++ [⟨s.mount ++ "/" ++ lwt.topic, lwt.payload, lwt.qos, lwt.retain, false⟩] }).deliverLocal
        i ⟨s.mount ++ "/" ++ lwt.topic, lwt.payload, lwt.qos, lwt.retain, false⟩ := by
  unfold leaveStep
  simp only [h, appendLog_of_accepts _ _ (by simp [h1, h2] : ((w.node i).logFailAll || (w.node i).logFailAt.contains (w.node i).logCalls) = false), if_true]

theorem leaveStep_fold (i : Nat) (l : List SessionMD) : ∀ (w : World), i < w.nodes.length →
    (w.node i).logFailAll = false → (w.node i).logFailAt = [] →
    ((l.foldl (leaveStep i) w).node i).log = (w.node i).log ++ l.filterMap willPub := by
  induction l with
  | nil => intro w _ _ _; simp
  | cons s rest ih =>
    intro w hi h1 h2
    simp only [List.foldl_cons]
    cases hl : s.lwt with
    | none =>
      simp only [List.filterMap_cons, willPub, hl, Option.map_none, leaveStep_none i w s hl]
      exact ih w hi h1 h2
    | some lwt =>
      simp only [List.filterMap_cons, willPub, hl, Option.map_some, leaveStep_some i w s lwt hl h1 h2]
      have hfr := deliverLocal_frame NFrame.logAll.sframe
        (w.setNode i { w.node i with logCalls := (w.node i).logCalls + 1, log := (w.node i).log ++ [⟨s.mount ++ "/" ++ lwt.topic, lwt.payload, lwt.qos, lwt.retain, false⟩] })
        i ⟨s.mount ++ "/" ++ lwt.topic, lwt.payload, lwt.qos, lwt.retain, false⟩
      have hn := hfr.2 i
      rw [node_setNode_self _ _ _ hi] at hn
      simp only [Prod.mk.injEq] at hn
      have hlen := hfr.1
      rw [setNode_length] at hlen
      rw [ih _ (by rw [hlen]; exact hi) (by rw [hn.2.1]; exact h1) (by rw [hn.2.2]; exact h2), hn.1]
      simp

theorem notifyLeave_log (w : World) (i : Nat) (peer : Nat) (hi : i < w.nodes.length)
    (h1 : (w.node i).logFailAll = false) (h2 : (w.node i).logFailAt = []) :
    ((w.notifyLeave i peer).node i).log = (w.node i).log ++
      (sessByPeer ((Wasp.Dist.subDeletePeer (w.node i).dist w.clock peer).1) peer).filterMap willPub := by
  rw [notifyLeave_eq]
  simp only []
  obtain ⟨hfr, hdist⟩ := leavePrefix_spec w i peer hi
  have hn := hfr.2 i
  simp only [Prod.mk.injEq] at hn
  refine (log_setNode _ _ _ _ ?_).trans ?_
  · rfl
  rw [leaveStep_fold i _ _ (by rw [hfr.1]; exact hi) (by rw [hn.2.1]; exact h1) (by rw [hn.2.2]; exact h2),
    hn.1, hdist]

end Wasp.Broker.AgentA
