import Wasp.Model.Conc
import Wasp.Proofs.Conc
import Wasp.Properties.C20Table
/-! From a lock table to thread programs: the lift of `tableDisciplined` to `Disciplined`
    (for Properties/C20Lift.lean). -/
namespace Wasp.Conc

/-- names are numbered by their first position in a list -/
def nameIdx (names : List String) (s : String) : Nat := names.idxOf s

def lockNames (t : List Entry) : List String := t.flatMap (fun e => e.2.2.2.map (·.1))
def locNames (t : List Entry) : List String := t.map (·.1)

/-- the critical section of one table row: take its locks (in the order listed), make the access, release them -/
def rowProg (t : List Entry) (e : Entry) : List Act :=
  e.2.2.2.map (fun l => Act.acquire (nameIdx (lockNames t) l.1) l.2) ++
  [Act.access (nameIdx (locNames t) e.1) e.2.2.1] ++
  e.2.2.2.reverse.map (fun l => Act.release (nameIdx (lockNames t) l.1))

/-- a thread executes any sequence of rows of the table (row numbers out of range do nothing) -/
def threadProg (t : List Entry) (rows : List Nat) : List Act :=
  rows.flatMap (fun r => match t[r]? with | some e => rowProg t e | none => [])

/-- no row lists a lock twice -/
def rowsNodup (t : List Entry) : Bool := t.all (fun e => decide (e.2.2.2.map (·.1)).Nodup)

end Wasp.Conc

namespace Wasp.Conc.Lift
open Wasp.Conc

/-! ### numbering is injective on listed names -/

theorem nameIdx_inj (names : List String) (a b : String) (ha : a ∈ names)
    (h : nameIdx names a = nameIdx names b) : a = b := by
  have la : names.idxOf a < names.length := List.idxOf_lt_length_of_mem ha
  have lb : names.idxOf b < names.length := Nat.lt_of_le_of_lt (Nat.le_of_eq (Eq.symm h)) la
  exact (List.getElem_idxOf la).symm.trans ((getElem_congr_idx h).trans (List.getElem_idxOf lb))

theorem nodup_map_nameIdx (names : List String) (l : List String) (hsub : ∀ a ∈ l, a ∈ names)
    (hn : l.Nodup) : (l.map (nameIdx names)).Nodup := by
  induction l with
  | nil => simp
  | cons x xs ih =>
    rw [List.nodup_cons] at hn
    rw [List.map_cons, List.nodup_cons]
    refine ⟨?_, ih (fun a ha => hsub a (List.mem_cons_of_mem _ ha)) hn.2⟩
    intro hm
    rcases List.mem_map.1 hm with ⟨y, hy, hxy⟩
    exact hn.1 (nameIdx_inj names x y (hsub x List.mem_cons_self) hxy.symm ▸ hy)

/-! ### scanning a bracketed critical section -/

def acqs (L : List (Nat × Mode)) : List Act := L.map (fun l => Act.acquire l.1 l.2)
def rels (L : List (Nat × Mode)) : List Act := L.map (fun l => Act.release l.1)

/-- `L.reverse`: scan and bracketing check both cons each lock taken onto `cur` -/
theorem run_acqs (L cur : List (Nat × Mode)) (rest : List Act)
    (hn : (L.map (·.1)).Nodup) (hdis : ∀ x ∈ L, ∀ y ∈ cur, y.1 ≠ x.1) :
    scanAccesses cur (acqs L ++ rest) = scanAccesses (L.reverse ++ cur) rest ∧
    wellBracketed cur (acqs L ++ rest) = wellBracketed (L.reverse ++ cur) rest := by
  induction L generalizing cur with
  | nil => exact ⟨rfl, rfl⟩
  | cons x xs ih =>
    rw [List.map_cons, List.nodup_cons] at hn
    have hx : cur.any (fun e => e.1 == x.1) = false :=
      List.any_eq_false.mpr fun y hy => mt eq_of_beq (hdis x List.mem_cons_self y hy)
    have hdis' : ∀ a ∈ xs, ∀ y ∈ x :: cur, y.1 ≠ a.1 := by
      intro a ha y hy
      rcases List.mem_cons.1 hy with rfl | hy
      · exact fun h => hn.1 (h ▸ List.mem_map_of_mem ha)
      · exact hdis a (List.mem_cons_of_mem _ ha) y hy
    obtain ⟨h1, h2⟩ := ih (x :: cur) hn.2 hdis'
    rw [List.reverse_cons, List.append_assoc]
    refine ⟨h1, ?_⟩
    show (!(cur.any fun e => e.1 == x.1) && wellBracketed (x :: cur) (acqs xs ++ rest)) = _
    rw [hx]
    exact h2

theorem filter_head_nodup (x : Nat × Mode) (xs : List (Nat × Mode)) (hn : ((x :: xs).map (·.1)).Nodup) :
    (x :: xs).filter (fun e => e.1 != x.1) = xs := by
  rw [List.map_cons, List.nodup_cons] at hn
  rw [List.filter_cons_of_neg (by rw [bne_self_eq_false]; exact Bool.false_ne_true), List.filter_eq_self]
  exact fun a ha => bne_iff_ne.mpr fun h => hn.1 (h ▸ List.mem_map_of_mem ha)

theorem run_rels (L : List (Nat × Mode)) (hn : (L.map (·.1)).Nodup) (rest : List Act) :
    scanAccesses L (rels L ++ rest) = scanAccesses [] rest ∧
    wellBracketed L (rels L ++ rest) = wellBracketed [] rest := by
  induction L with
  | nil => exact ⟨rfl, rfl⟩
  | cons x xs ih =>
    have hf := filter_head_nodup x xs hn
    rw [List.map_cons, List.nodup_cons] at hn
    obtain ⟨h1, h2⟩ := ih hn.2
    constructor
    · show scanAccesses ((x :: xs).filter fun e => e.1 != x.1) (rels xs ++ rest) = _
      rw [hf]
      exact h1
    · show (((x :: xs).any fun e => e.1 == x.1) &&
        wellBracketed ((x :: xs).filter fun e => e.1 != x.1) (rels xs ++ rest)) = _
      rw [hf, List.any_cons, beq_self_eq_true]
      exact h2

def numLocks (t : List Entry) (e : Entry) : List (Nat × Mode) :=
  e.2.2.2.map (fun l => (nameIdx (lockNames t) l.1, l.2))

theorem rowProg_eq (t : List Entry) (e : Entry) :
    rowProg t e = acqs (numLocks t e) ++
      (Act.access (nameIdx (locNames t) e.1) e.2.2.1 :: rels (numLocks t e).reverse) := by
  simp [rowProg, acqs, rels, numLocks, List.map_reverse, Function.comp_def]

theorem numLocks_nodup (t : List Entry) (hn : rowsNodup t = true) (e : Entry) (he : e ∈ t) :
    ((numLocks t e).map (·.1)).Nodup := by
  have h1 : (e.2.2.2.map (·.1)).Nodup := by
    have := List.all_eq_true.1 hn e he
    simpa using this
  have h2 := nodup_map_nameIdx (lockNames t) (e.2.2.2.map (·.1)) (by
    intro a ha
    simp only [lockNames, List.mem_flatMap]
    exact ⟨e, he, ha⟩) h1
  simpa [numLocks, List.map_map, Function.comp_def] using h2

theorem run_row (t : List Entry) (hn : rowsNodup t = true) (e : Entry) (he : e ∈ t) (rest : List Act) :
    scanAccesses [] (rowProg t e ++ rest) =
      (nameIdx (locNames t) e.1, e.2.2.1, (numLocks t e).reverse) :: scanAccesses [] rest ∧
    wellBracketed [] (rowProg t e ++ rest) = wellBracketed [] rest := by
  have hnd := numLocks_nodup t hn e he
  have hnd' : (((numLocks t e).reverse).map (·.1)).Nodup := by
    rw [List.map_reverse]; exact List.pairwise_reverse.2 (hnd.imp (fun h => Ne.symm h))
  obtain ⟨a1, a2⟩ := run_acqs (numLocks t e) [] (Act.access (nameIdx (locNames t) e.1) e.2.2.1 ::
    (rels (numLocks t e).reverse ++ rest)) hnd (fun _ _ _ hy => nomatch hy)
  obtain ⟨r1, r2⟩ := run_rels _ hnd' rest
  rw [List.append_nil] at a1 a2
  rw [rowProg_eq, List.append_assoc, List.cons_append, a1, a2]
  exact ⟨congrArg _ r1, r2⟩

theorem threadProg_induction {P : List Act → Prop} (t : List Entry) (nil : P [])
    (row : ∀ e ∈ t, ∀ rest, P rest → P (rowProg t e ++ rest)) (rows : List Nat) :
    P (threadProg t rows) := by
  induction rows with
  | nil => exact nil
  | cons r rs ih =>
    show P ((match t[r]? with | some e => rowProg t e | none => []) ++ threadProg t rs)
    cases hr : t[r]? with
    | none => exact ih
    | some e => exact row e (List.mem_of_getElem? hr) _ ih

theorem scan_thread (t : List Entry) (hn : rowsNodup t = true) (rows : List Nat) :
    ∀ a ∈ scanAccesses [] (threadProg t rows), ∃ e ∈ t,
      a = (nameIdx (locNames t) e.1, e.2.2.1, (numLocks t e).reverse) := by
  refine threadProg_induction t (P := fun p => ∀ a ∈ scanAccesses [] p, ∃ e ∈ t,
      a = (nameIdx (locNames t) e.1, e.2.2.1, (numLocks t e).reverse))
    (fun a ha => absurd ha List.not_mem_nil) (fun e he rest ih a ha => ?_) rows
  rw [(run_row t hn e he rest).1] at ha
  rcases List.mem_cons.1 ha with rfl | ha
  · exact ⟨e, he, rfl⟩
  · exact ih a ha

/-! ### transferring protection from names to numbers -/

theorem protected_transfer (t : List Entry) (e₁ e₂ : Entry)
    (h : protectedPairS e₁.2.2.2 e₂.2.2.2 = true) :
    protectedPair (numLocks t e₁).reverse (numLocks t e₂).reverse = true := by
  simp only [protectedPairS, List.any_eq_true] at h
  rcases h with ⟨x, hx, y, hy, hxy⟩
  simp only [protectedPair, List.any_eq_true]
  refine ⟨(nameIdx (lockNames t) x.1, x.2), ?_, (nameIdx (lockNames t) y.1, y.2), ?_, ?_⟩
  · rw [List.mem_reverse]; exact List.mem_map.2 ⟨x, hx, rfl⟩
  · rw [List.mem_reverse]; exact List.mem_map.2 ⟨y, hy, rfl⟩
  · simp only [Bool.and_eq_true, beq_iff_eq] at hxy ⊢
    exact ⟨by rw [hxy.1], hxy.2⟩

theorem rows_protected (t : List Entry) (hd : tableDisciplined t = true) (e₁ e₂ : Entry)
    (h₁ : e₁ ∈ t) (h₂ : e₂ ∈ t)
    (hloc : nameIdx (locNames t) e₁.1 = nameIdx (locNames t) e₂.1)
    (hw : e₁.2.2.1 = true ∨ e₂.2.2.1 = true) :
    protectedPair (numLocks t e₁).reverse (numLocks t e₂).reverse = true := by
  have hc : conflictOk e₁ e₂ = true := by
    have := List.all_eq_true.1 hd e₁ h₁
    exact List.all_eq_true.1 this e₂ h₂
  have hname : e₁.1 = e₂.1 :=
    nameIdx_inj (locNames t) e₁.1 e₂.1 (List.mem_map.2 ⟨e₁, h₁, rfl⟩) hloc
  apply protected_transfer
  simp only [conflictOk, Bool.or_eq_true, bne_iff_ne, ne_eq, Bool.not_eq_true',
    Bool.or_eq_false_iff] at hc
  rcases hc with (hc | hc) | hc
  · exact absurd hname hc
  · rcases hw with hw | hw
    · rw [hc.1] at hw; cases hw
    · rw [hc.2] at hw; cases hw
  · exact hc

theorem table_lift (t : List Entry) (hd : tableDisciplined t = true) (hn : rowsNodup t = true)
    (threads : List (List Nat)) : Disciplined (threads.map (threadProg t)) := by
  constructor
  · intro p hp
    rcases List.mem_map.1 hp with ⟨rows, _, rfl⟩
    exact threadProg_induction (P := fun p => wellBracketed [] p = true) t rfl
      (fun e he rest ih => (run_row t hn e he rest).2.trans ih) rows
  · intro t₁ t₂ p₁ p₂ _ hp₁ hp₂ a₁ ha₁ a₂ ha₂ hloc hw
    rw [List.getElem?_map] at hp₁ hp₂
    rcases Option.map_eq_some_iff.1 hp₁ with ⟨r₁, _, rfl⟩
    rcases Option.map_eq_some_iff.1 hp₂ with ⟨r₂, _, rfl⟩
    rcases scan_thread t hn r₁ a₁ ha₁ with ⟨e₁, he₁, rfl⟩
    rcases scan_thread t hn r₂ a₂ ha₂ with ⟨e₂, he₂, rfl⟩
    exact rows_protected t hd e₁ e₂ he₁ he₂ hloc hw

end Wasp.Conc.Lift
