import Wasp.Model.BrokerOps
import Wasp.Proofs.BrokerT3
import Wasp.Proofs.BrokerT1
import Wasp.Proofs.BrokerD
import Wasp.Proofs.BrokerRel
/-! `GlobalInv` (Wasp/Properties/Reachable.lean) as the pool invariant of Wasp/Proofs/BrokerT3.lean and `RInv`, the part about
registries, connections and crdt stamps; `GI` is the pair, `gi_step` says every operation of the harness keeps it. -/
namespace Wasp.Broker
open Wasp.Dist

/-- shape of a node's subscription store (hypothesis `hinv` of `C11_teardown_subscriptions`) -/
def SubsWF (m : List (String × List Sub)) : Prop :=
  (m.map (·.1)).Nodup ∧ ∀ kl ∈ m, (kl.2.map (·.session)).Nodup ∧ ∀ u ∈ kl.2, u.pattern = kl.1

/-- The invariant of every reachable world. The first five fields are the hypotheses the property theorems carry;
    the last three make it inductive:
* `clockPos`  the crdt clock is positive (a fresh tombstone has `added = 0`, a fresh subscription `deleted = 0`);
* `regConns`  a registered session's connection is open and assigned to the node the session is registered on;
* `pendClock` gossip not yet delivered only carries subscription stamps older than the clock. -/
structure GlobalInv (w : World) : Prop where
  pool : WorldPoolInv w
  regNodup : ∀ i, ((w.node i).reg.map (·.id)).Nodup
  regConn : ∀ i, ∀ s ∈ (w.node i).reg, s.id = "S" ++ s.conn
  subsWF : ∀ i, SubsWF (w.node i).dist.subs
  subsClock : ∀ i, ∀ kl ∈ (w.node i).dist.subs, ∀ u ∈ kl.2, u.added < w.clock ∧ u.deleted < w.clock
  clockPos : 0 < w.clock
  regConns : ∀ i, ∀ s ∈ (w.node i).reg, w.conns.find? (fun e => e.1 == s.conn) = some (s.conn, i)
  pendClock : ∀ i, ∀ e ∈ (w.node i).pending, ∀ u ∈ e.2.subs, u.added < w.clock ∧ u.deleted < w.clock

end Wasp.Broker

namespace Wasp.Broker.AgentT5
open Wasp.Broker Wasp.Dist Wasp.Topic Wasp.Wire Wasp.Broker.AgentD

/-! ### subscription stores -/

/-- every stamp of the list of subscriptions is older than `c` -/
def Old (c : Int) (l : List Sub) : Prop := ∀ u ∈ l, u.added < c ∧ u.deleted < c

theorem Old.mono {c c' : Int} {l : List Sub} (h : Old c l) (hc : c ≤ c') : Old c' l :=
  fun u hu => ⟨by have := (h u hu).1; omega, by have := (h u hu).2; omega⟩

theorem old_nil (c : Int) : Old c [] := fun _ h => by cases h

/-- `m'` is `m` after setting a list of subscriptions, all older than `c` -/
def SubsStep (c : Int) (m m' : List (String × List Sub)) : Prop :=
  ∃ vs, m' = vs.foldl (fun acc s => subsSet s acc) m ∧ Old c vs

theorem SubsStep.refl (c : Int) (m : List (String × List Sub)) : SubsStep c m m := ⟨[], rfl, old_nil c⟩

theorem SubsStep.of_eq {c : Int} {m m' : List (String × List Sub)} (h : m' = m) : SubsStep c m m' := by
  rw [h]; exact SubsStep.refl c m

theorem SubsStep.trans {c c' : Int} {m₁ m₂ m₃ : List (String × List Sub)} (h1 : SubsStep c m₁ m₂) (hc : c ≤ c')
    (h2 : SubsStep c' m₂ m₃) : SubsStep c' m₁ m₃ := by
  obtain ⟨vs, e1, o1⟩ := h1
  obtain ⟨vs', e2, o2⟩ := h2
  refine ⟨vs ++ vs', by rw [e2, e1, List.foldl_append], ?_⟩
  intro u hu
  rcases List.mem_append.mp hu with hu | hu
  · exact (o1.mono hc) u hu
  · exact o2 u hu

theorem SubsStep.one (c : Int) (s : Sub) (m : List (String × List Sub)) (h : s.added < c ∧ s.deleted < c) :
    SubsStep c m (subsSet s m) :=
  ⟨[s], rfl, fun u hu => by simp only [List.mem_singleton] at hu; subst hu; exact h⟩

theorem SubsStep.wf {c : Int} {m m' : List (String × List Sub)} (h : SubsStep c m m') (hm : SubsWF m) : SubsWF m' := by
  obtain ⟨vs, e, ho⟩ := h
  subst e
  clear ho
  induction vs generalizing m with
  | nil => exact hm
  | cons v rest ih =>
    simp only [List.foldl_cons]
    apply ih
    refine ⟨subsSet_keys_nodup v m hm.1, fun kl hkl => ⟨?_, ?_⟩⟩
    · exact subsSet_inner_nodup v m (fun kl hkl => (hm.2 kl hkl).1) kl hkl
    · exact subsSet_forall (fun k x => x.pattern = k) v m (fun kl hkl => (hm.2 kl hkl).2) rfl kl hkl

theorem SubsStep.clk {c : Int} {m m' : List (String × List Sub)} (h : SubsStep c m m')
    (hm : ∀ kl ∈ m, Old c kl.2) : ∀ kl ∈ m', Old c kl.2 := by
  obtain ⟨vs, e, ho⟩ := h
  subst e
  exact foldl_subsSet_forall (fun _ x => x.added < c ∧ x.deleted < c) vs m hm ho

theorem mergeSubs_forall (Q : String → Sub → Prop) (vs : List Sub) (m : List (String × List Sub))
    (hm : ∀ kl ∈ m, ∀ x ∈ kl.2, Q kl.1 x) (hv : ∀ v ∈ vs, Q v.pattern v) :
    ∀ kl ∈ mergeSubs vs m, ∀ x ∈ kl.2, Q kl.1 x := by
  induction vs generalizing m with
  | nil => exact hm
  | cons v rest ih =>
    simp only [mergeSubs]
    split
    · exact hm
    · exact ih _ (subsSet_forall Q v m hm (hv v (by simp))) (fun u hu => hv u (by simp [hu]))

/-- `mergeSubs` applies a prefix of the received subscriptions -/
theorem mergeSubs_step (c : Int) (vs : List Sub) (m : List (String × List Sub)) (h : Old c vs) :
    SubsStep c m (mergeSubs vs m) := by
  induction vs generalizing m with
  | nil => exact SubsStep.refl c m
  | cons v rest ih =>
    simp only [mergeSubs]
    split
    · exact SubsStep.refl c m
    · exact (SubsStep.one c v m (h v (by simp))).trans (Int.le_refl c) (ih _ (fun u hu => h u (by simp [hu])))

theorem merge_step (c : Int) (st : State) (ev : Event) (h : Old c ev.subs) : SubsStep c st.subs (merge st ev).subs :=
  mergeSubs_step c ev.subs st.subs h

theorem foldl_merge_step (c : Int) (evs : List Event) (st : State) (h : ∀ ev ∈ evs, Old c ev.subs) :
    SubsStep c st.subs (evs.foldl merge st).subs := by
  induction evs generalizing st with
  | nil => exact SubsStep.refl c _
  | cons ev rest ih =>
    simp only [List.foldl_cons]
    exact (merge_step c st ev (h ev (by simp))).trans (Int.le_refl c) (ih _ (fun e he => h e (by simp [he])))

theorem subCreate_step (st : State) (now : Int) (sid pat : String) (qos : Int) (h0 : 0 < now) :
    SubsStep (now + 1) st.subs (Wasp.Dist.subCreate st now sid pat qos).1.subs ∧
      Old (now + 1) (Wasp.Dist.subCreate st now sid pat qos).2.subs := by
  have hb : (⟨sid, pat, st.peer, qos, now, 0⟩ : Sub).added < now + 1 ∧ (⟨sid, pat, st.peer, qos, now, 0⟩ : Sub).deleted < now + 1 := by
    constructor <;> simp only <;> omega
  refine ⟨SubsStep.one _ _ _ hb, ?_⟩
  intro u hu
  simp only [Wasp.Dist.subCreate, List.mem_singleton] at hu
  subst hu; exact hb

theorem subDelete_step (st : State) (now : Int) (sid pat : String) (h0 : 0 < now) :
    SubsStep (now + 1) st.subs (Wasp.Dist.subDelete st now sid pat).1.subs ∧
      Old (now + 1) (Wasp.Dist.subDelete st now sid pat).2.subs := by
  have hb : (⟨sid, pat, st.peer, 0, 0, now⟩ : Sub).added < now + 1 ∧ (⟨sid, pat, st.peer, 0, 0, now⟩ : Sub).deleted < now + 1 := by
    constructor <;> simp only <;> omega
  refine ⟨SubsStep.one _ _ _ hb, ?_⟩
  intro u hu
  simp only [Wasp.Dist.subDelete, List.mem_singleton] at hu
  subst hu; exact hb

theorem subBulkDelete_step (st : State) (now : Int) (f : Sub → Bool) (hm : ∀ kl ∈ st.subs, Old now kl.2) :
    SubsStep (now + 1) st.subs (subBulkDelete st now f).1.subs ∧ Old (now + 1) (subBulkDelete st now f).2.subs := by
  have ho : Old (now + 1) ((subFilter st f).map (fun s => { s with deleted := now })) := by
    intro u hu
    simp only [List.mem_map, subFilter, List.mem_flatMap, List.mem_filter] at hu
    obtain ⟨x, ⟨kl, hkl, hx, _⟩, rfl⟩ := hu
    have := hm kl hkl x hx
    constructor <;> simp only <;> omega
  exact ⟨⟨_, rfl, ho⟩, ho⟩

theorem sessDelete_ev (st : State) (now : Int) (id : String) (e : Event)
    (h : (Wasp.Dist.sessDelete st now id).2 = some e) : e.subs = [] := by
  unfold Wasp.Dist.sessDelete at h
  split at h
  · cases h
  · split at h
    · cases h
    · cases h; rfl

theorem sessCreate_ev (st : State) (now : Int) (id client : String) (ca : Int) (lwt : Option Will) (mount : String)
    (e : Event) (h : (sessCreate st now id client ca lwt mount).2.1 = some e) : e.subs = [] := by
  unfold sessCreate at h
  split at h
  · split at h
    · cases h
    · cases h; rfl
  · cases h; rfl

/-! ### the registry / clock part of the invariant -/

/-- node-level part, relative to a clock -/
structure NInv (c : Int) (n : Node) : Prop where
  regNodup : (n.reg.map (·.id)).Nodup
  regConn : ∀ s ∈ n.reg, s.id = "S" ++ s.conn
  subsWF : SubsWF n.dist.subs
  subsClock : ∀ kl ∈ n.dist.subs, Old c kl.2
  pendClock : ∀ e ∈ n.pending, Old c e.2.subs

structure RInv (w : World) : Prop where
  clockPos : 0 < w.clock
  node : ∀ i, NInv w.clock (w.node i)
  conns : ∀ i, ∀ s ∈ (w.node i).reg, w.conns.find? (fun e => e.1 == s.conn) = some (s.conn, i)

theorem NInv.mono {c c' : Int} {n : Node} (h : NInv c n) (hc : c ≤ c') : NInv c' n :=
  ⟨h.regNodup, h.regConn, h.subsWF, fun kl hkl => (h.subsClock kl hkl).mono hc, fun e he => (h.pendClock e he).mono hc⟩

theorem globalInv_iff (w : World) : GlobalInv w ↔ WorldPoolInv w ∧ RInv w := by
  constructor
  · intro h
    exact ⟨h.pool, h.clockPos, fun i => ⟨h.regNodup i, h.regConn i, h.subsWF i, h.subsClock i, h.pendClock i⟩, h.regConns⟩
  · rintro ⟨hp, hr⟩
    exact ⟨hp, fun i => (hr.node i).regNodup, fun i => (hr.node i).regConn, fun i => (hr.node i).subsWF,
      fun i => (hr.node i).subsClock, hr.clockPos, hr.conns, fun i => (hr.node i).pendClock⟩

theorem rinv_conns {w w' : World} (h : RInv w) (hn : w'.nodes = w.nodes) (hk : w.clock ≤ w'.clock)
    (hc : ∀ i, ∀ s ∈ (w.node i).reg, w'.conns.find? (fun e => e.1 == s.conn) = some (s.conn, i)) : RInv w' := by
  refine ⟨by have := h.clockPos; omega, fun i => ?_, fun i s hs => ?_⟩
  · rw [node_congr hn]; exact (h.node i).mono hk
  · rw [node_congr hn] at hs; exact hc i s hs

/-- nothing but `out`, `bufs`, `deaf`, `hs`, `now`, `epoch` changed, and the clock did not go back -/
theorem rinv_frame {w w' : World} (h : RInv w) (hn : w'.nodes = w.nodes) (hc : w'.conns = w.conns)
    (hk : w.clock ≤ w'.clock) : RInv w' :=
  rinv_conns h hn hk (fun i s hs => by rw [hc]; exact h.conns i s hs)

theorem rinv_emit {w : World} (h : RInv w) (c : String) (p : Pkt) : RInv (w.emit c p) :=
  rinv_frame h rfl rfl (Int.le_refl _)

theorem rinv_tick {w : World} (h : RInv w) : RInv w.tick.1 :=
  rinv_frame h rfl rfl (by show w.clock ≤ w.clock + 1; omega)

@[simp] theorem tick_clock (w : World) : w.tick.1.clock = w.clock + 1 := rfl
@[simp] theorem tick_snd (w : World) : w.tick.2 = w.clock := rfl
@[simp] theorem tick_node (w : World) (j : Nat) : w.tick.1.node j = w.node j := rfl

theorem rinv_setNode' {w : World} (h : RInv w) (i : Nat) (n' : Node) (hn : NInv w.clock n')
    (hc : ∀ s ∈ n'.reg, w.conns.find? (fun e => e.1 == s.conn) = some (s.conn, i)) : RInv (w.setNode i n') := by
  refine ⟨h.clockPos, fun j => ?_, fun j s hs => ?_⟩
  · rw [node_setNode]
    split
    · exact hn
    · exact h.node j
  · rw [node_setNode] at hs
    show w.conns.find? _ = _
    split at hs
    · rename_i hji
      rw [hji.1]
      exact hc s hs
    · exact h.conns j s hs

theorem rinv_setNode {w : World} (h : RInv w) (i : Nat) (n' : Node) (hn : NInv w.clock n')
    (hc : ∀ s ∈ n'.reg, ∃ s0 ∈ (w.node i).reg, s0.conn = s.conn) : RInv (w.setNode i n') := by
  refine rinv_setNode' h i n' hn (fun s hs => ?_)
  obtain ⟨s0, hs0, e⟩ := hc s hs
  rw [← e]
  exact h.conns i s0 hs0

/-- the hypotheses default to `rfl`: at the calls the new node is a literal `{ n with … }` of other fields -/
theorem rinv_setNode_same {w : World} (h : RInv w) (i : Nat) (n' : Node) (hr : n'.reg = (w.node i).reg := by rfl)
    (hs : n'.dist.subs = (w.node i).dist.subs := by rfl) (hp : n'.pending = (w.node i).pending := by rfl) :
    RInv (w.setNode i n') := by
  have hn := h.node i
  refine rinv_setNode h i n' ⟨by rw [hr]; exact hn.regNodup, by rw [hr]; exact hn.regConn, by rw [hs]; exact hn.subsWF,
    by rw [hs]; exact hn.subsClock, by rw [hp]; exact hn.pendClock⟩ ?_
  intro s hs
  rw [hr] at hs
  exact ⟨s, hs, rfl⟩

theorem rinv_setDist {w : World} (h : RInv w) (i : Nat) (d : State)
    (hd : SubsStep w.clock (w.node i).dist.subs d.subs) : RInv (w.setNode i { w.node i with dist := d }) := by
  have hn := h.node i
  refine rinv_setNode h i _ ⟨hn.regNodup, hn.regConn, hd.wf hn.subsWF, hd.clk hn.subsClock, hn.pendClock⟩ ?_
  intro s hs
  exact ⟨s, hs, rfl⟩

theorem rinv_broadcast {w : World} (h : RInv w) (i : Nat) (ev : Event) (he : Old w.clock ev.subs) :
    RInv (w.broadcast i ev) := by
  unfold World.broadcast
  have hn := h.node i
  refine rinv_setNode h i _ ⟨hn.regNodup, hn.regConn, hn.subsWF, hn.subsClock, ?_⟩ (fun s hs => ⟨s, hs, rfl⟩)
  intro e hme
  simp only [List.mem_append, List.mem_map] at hme
  rcases hme with hme | ⟨j, _, rfl⟩
  · exact hn.pendClock e hme
  · exact he

theorem rinv_distWrite {w : World} (h : RInv w) (i : Nat) (d : State) (ev : Event)
    (hd : SubsStep (w.clock + 1) (w.node i).dist.subs d.subs) (he : Old (w.clock + 1) ev.subs) :
    RInv ((w.tick.1.setNode i { w.tick.1.node i with dist := d }).broadcast i ev) :=
  rinv_broadcast (rinv_setDist (rinv_tick h) i d hd) i ev he

theorem rinv_setSess {w : World} (h : RInv w) (i : Nat) (sid : String) (s s' : Sess)
    (hs : (w.node i).sess sid = some s) (hid : s'.id = s.id) (hconn : s'.conn = s.conn) :
    RInv (w.setNode i ((w.node i).setSess s')) := by
  have hn := h.node i
  obtain ⟨hmem, _⟩ := sess_some hs
  refine rinv_setNode h i _ ⟨by rw [setSess_ids]; exact hn.regNodup, ?_, hn.subsWF, hn.subsClock, hn.pendClock⟩ ?_
  · intro x hx
    rcases mem_setSess hx with rfl | hx
    · rw [hid, hconn]; exact hn.regConn s hmem
    · exact hn.regConn x hx
  · intro x hx
    rcases mem_setSess hx with rfl | hx
    · exact ⟨s, hmem, hconn.symm⟩
    · exact ⟨x, hx, rfl⟩

/-! ### writer, publish pipeline, packets -/

theorem rinv_extendDeadline {w : World} (h : RInv w) (i : Nat) (sid : String) : RInv (w.extendDeadline i sid) :=
  extendDeadline_of (P := RInv) h (fun s hs => rinv_setSess h i sid s _ hs rfl rfl)

theorem rinv_subCreate {w : World} (h : RInv w) (i : Nat) (sid pat : String) (qos : Int) :
    RInv (w.subCreate i sid pat qos) := by
  have hs := subCreate_step (w.node i).dist w.clock sid pat qos h.clockPos
  exact rinv_distWrite h i _ _ hs.1 hs.2

theorem rinv_subDelete {w : World} (h : RInv w) (i : Nat) (sid pat : String) : RInv (w.subDelete i sid pat) := by
  have hs := subDelete_step (w.node i).dist w.clock sid pat h.clockPos
  exact rinv_distWrite h i _ _ hs.1 hs.2

/-- the deletion and the creation of a session record -/
theorem rinv_recordWrite {w : World} (h : RInv w) (i : Nat) (d : State) (ev : Option Event)
    (hs : d.subs = (w.node i).dist.subs) (he : ∀ e, ev = some e → e.subs = []) :
    RInv (optCast (w.tick.1.setNode i { w.tick.1.node i with dist := d }) i ev) :=
  optCast_rel (R := Keeps RInv) Keeps.refl Keeps.trans (fun h => rinv_setDist (rinv_tick h) i d (SubsStep.of_eq hs))
    (fun e hev h2 => rinv_broadcast h2 i e (by rw [he e hev]; exact old_nil _)) h

theorem rinv_sessDelete {w : World} (h : RInv w) (i : Nat) (sid : String) : RInv (w.sessDelete i sid) := by
  unfold World.sessDelete
  exact rinv_recordWrite h i _ _ (sessDelete_subs _ _ _) (sessDelete_ev _ _ _)

theorem topic_step (st : State) (now : Int) (p : Pub) :
    (if p.payload = "" then topicDelete st now p.topic else topicSet st now p.topic p.payload p.qos true p.dup).1.subs = st.subs ∧
    (if p.payload = "" then topicDelete st now p.topic else topicSet st now p.topic p.payload p.qos true p.dup).2.subs = [] := by
  split <;> exact ⟨rfl, rfl⟩

theorem rinv_retainStep {w : World} (h : RInv w) (i : Nat) (p : Pub) : RInv (retainStep w i p) := by
  unfold retainStep
  split
  · have ht := topic_step (w.node i).dist w.clock p
    have he : Old (w.clock + 1) (if p.payload = "" then topicDelete (w.node i).dist w.clock p.topic
        else topicSet (w.node i).dist w.clock p.topic p.payload p.qos true p.dup).2.subs := by
      rw [ht.2]; exact old_nil _
    exact rinv_distWrite h i _ _ (SubsStep.of_eq ht.1) he
  · exact h

theorem RInv.of_moves {who : Option String} {w w' : World} (h : Moves who w w') (hw : RInv w) : RInv w' :=
  Moves.rel (R := Keeps RInv) Keeps.refl Keeps.trans
    (emit := fun _ c p _ h => rinv_emit h c p)
    (epoch := fun _ h => rinv_frame h rfl rfl (Int.le_refl _))
    (extendDeadline := fun _ i x h => rinv_extendDeadline h i x)
    (subCreate := fun sid _ _ i pat qos h => rinv_subCreate h i sid pat qos)
    (subDelete := fun sid _ _ i pat h => rinv_subDelete h i sid pat)
    (retain := fun _ i p h => rinv_retainStep h i p)
    (topics := fun sid _ _ i s _ hs h => rinv_setSess h i sid s _ hs rfl rfl)
    (tables := fun _ i _ _ _ _ _ h => rinv_setNode_same h i _) h hw


/-! ### connections and registries -/

theorem rinv_setPending {w : World} (h : RInv w) (i : Nat) (p : List (Nat × Event))
    (hp : ∀ e ∈ p, e ∈ (w.node i).pending) : RInv (w.setNode i { w.node i with pending := p }) := by
  have hn := h.node i
  exact rinv_setNode h i _ ⟨hn.regNodup, hn.regConn, hn.subsWF, hn.subsClock, fun e he => hn.pendClock e (hp e he)⟩
    (fun s hs => ⟨s, hs, rfl⟩)

theorem rinv_conn_unique {w : World} (h : RInv w) {i j : Nat} {s s' : Sess} (hs : s ∈ (w.node i).reg)
    (hs' : s' ∈ (w.node j).reg) (e : s'.conn = s.conn) : j = i ∧ s'.id = s.id := by
  have h1 := h.conns i s hs
  have h2 := h.conns j s' hs'
  rw [e, h1] at h2
  simp only [Option.some.injEq, Prod.mk.injEq, true_and] at h2
  refine ⟨h2.symm, ?_⟩
  rw [(h.node i).regConn s hs, (h.node j).regConn s' hs', e]

/-- no registered session uses connection `c` -/
def NoConn (c : String) (w : World) : Prop := ∀ j, ∀ s ∈ (w.node j).reg, s.conn ≠ c

theorem filter_filter_self (l : List (String × Nat)) (c : String) :
    (l.filter (fun e => e.1 != c)).filter (fun e => e.1 != c) = l.filter (fun e => e.1 != c) := by
  rw [List.filter_filter]
  congr 1
  funext a
  simp

/-- session `s` leaves the registry of node i and its connection leaves the list -/
theorem rinv_unregConn {w w' : World} (h : RInv w) {i : Nat} {s : Sess} (hs : s ∈ (w.node i).reg)
    (hn : w'.nodes = (w.setNode i { w.node i with reg := (w.node i).reg.filter (fun x => x.id != s.id) }).nodes)
    (hc : w'.conns = w.conns.filter (fun (c : String × Nat) => c.1 != s.conn)) (hk : w'.clock = w.clock) : RInv w' := by
  -- what stays registered was registered, on another connection
  have key : ∀ j, ∀ x ∈ (w'.node j).reg, x ∈ (w.node j).reg ∧ x.conn ≠ s.conn := by
    intro j x hx
    rw [node_congr hn, node_setNode] at hx
    split at hx
    · rename_i hji
      simp only [List.mem_filter, bne_iff_ne, ne_eq] at hx
      rw [hji.1]
      exact ⟨hx.1, fun e => hx.2 (rinv_conn_unique h hs hx.1 e).2⟩
    · rename_i hji
      refine ⟨hx, fun e => ?_⟩
      have hj := (rinv_conn_unique h hs hx e).1
      subst hj
      rw [reg_oob w j (Nat.le_of_not_lt (fun hlt => hji ⟨rfl, hlt⟩))] at hs
      cases hs
  refine ⟨by rw [hk]; exact h.clockPos, fun j => ?_, fun j x hx => ?_⟩
  · rw [hk, node_congr hn, node_setNode]
    split
    · have hni := h.node i
      exact ⟨hni.regNodup.sublist (List.Sublist.map _ List.filter_sublist), fun x hx => hni.regConn x (List.mem_filter.mp hx).1,
        hni.subsWF, hni.subsClock, hni.pendClock⟩
    · exact h.node j
  · rw [hc, AgentT1.find_filter_key_ne _ _ _ (Ne.symm (key j x hx).2)]
    exact h.conns j x (key j x hx).1

theorem rinv_teardown {w : World} (h : RInv w) {i : Nat} {s : Sess} (hs : s ∈ (w.node i).reg) : RInv (teardown w i s).1 := by
  have hb : RInv (tdBase w i s) :=
    foldl_inv RInv _ _ _ (rinv_unregConn h hs rfl rfl rfl) (fun b a _ hb => rinv_subDelete hb i s.id a)
  rw [teardown_eq]
  split
  · exact rinv_sessDelete hb _ _
  · exact hb

theorem rinv_shutdown {w : World} (h : RInv w) (i : Nat) (sid : String) : RInv (w.shutdownSession i sid) := by
  cases hs : (w.node i).sess sid with
  | none => rw [shutdown_none hs]; exact h
  | some s => exact .of_moves (shutdown_moves hs) (rinv_teardown h (sess_some hs).1)

theorem rinv_clientPacket {w : World} (h : RInv w) (conn : String) (pkt : CPkt) : RInv (w.clientPacket conn pkt) :=
  clientPacket_rel (R := Keeps RInv) Keeps.refl Keeps.trans conn RInv.of_moves
    (fun _ i s hs h => rinv_setSess h i _ s _ hs rfl rfl) (fun _ i h => rinv_shutdown h i _) w pkt h

/-! ### CONNECT, the client closes -/

theorem find_reassign (l : List (String × Nat)) (c x : String) (i : Nat) (h : x ≠ c) (v : String × Nat)
    (hf : l.find? (fun e => e.1 == x) = some v) :
    (l.filter (fun e => e.1 != c) ++ [(c, i)]).find? (fun e => e.1 == x) = some v := by
  rw [List.find?_append, AgentT1.find_filter_key_ne _ _ _ (Ne.symm h), hf]
  rfl

/-- connection `c`, used by no session, is (re)assigned to node i -/
theorem rinv_reassign {w w' : World} (h : RInv w) (c : String) (i : Nat) (hno : NoConn c w) (hn : w'.nodes = w.nodes)
    (hc : w'.conns = w.conns.filter (fun (e : String × Nat) => e.1 != c) ++ [(c, i)]) (hk : w'.clock = w.clock) :
    RInv w' :=
  rinv_conns h hn (Int.le_of_eq hk.symm) (fun j s hs => by
    rw [hc]; exact find_reassign _ _ _ _ (hno j s hs) _ (h.conns j s hs))

theorem NoConn.of_sameReg {c : String} {w w' : World} (h : NoConn c w) (hw : RInv w) (hw' : RInv w') (hr : SameReg w w') :
    NoConn c w' := by
  intro j s hs e
  have hid : s.id ∈ (w'.node j).reg.map (·.id) := List.mem_map.mpr ⟨s, hs, rfl⟩
  rw [hr.ids j] at hid
  obtain ⟨x, hx, hxid⟩ := List.mem_map.mp hid
  have e2 : x.conn = c := by
    have := (hw.node j).regConn x hx
    rw [hxid, (hw'.node j).regConn s hs, e] at this
    exact (S_inj this).symm
  exact h j x hx e2

theorem noConn_notin {c : String} {w : World} (h : NoConn c w) (hw : RInv w) (j : Nat) :
    "S" ++ c ∉ (w.node j).reg.map (·.id) := by
  intro hm
  obtain ⟨x, hx, hxid⟩ := List.mem_map.mp hm
  have := (hw.node j).regConn x hx
  rw [hxid] at this
  exact h j x hx (S_inj this).symm

theorem rinv_connPre {w : World} (h : RInv w) (c : String) (i : Nat) (client mount : String) (hno : NoConn c w) :
    RInv (connPre w c i client mount) := by
  unfold connPre
  simp only
  have h0 : RInv ({ w with conns := (w.conns.filter (fun (c' : String × Nat) => c'.1 != c)) ++ [(c, i)] } : World) :=
    rinv_reassign h c i hno rfl rfl rfl
  split
  · exact rinv_sessDelete h0 _ _
  · exact h0

theorem rinv_connMid {w : World} (h : RInv w) (c : String) (i : Nat) (client mount : String) (will : Option Will)
    (hno : NoConn c w) : RInv (connMid w c i client mount will) := by
  unfold connMid
  exact rinv_recordWrite (rinv_connPre h c i client mount hno) i _ _ (sessCreate_subs _ _ _ _ _ _ _)
    (sessCreate_ev _ _ _ _ _ _ _)

theorem rinv_connect {w : World} (h : RInv w) (c : String) (i : Nat) (client mount : String) (authOk : Bool)
    (keepalive : Nat) (will : Option Will) (hno : NoConn c w) :
    RInv (w.connect c i client mount authOk keepalive will) := by
  cases authOk with
  | false =>
    rw [connect_refused]
    exact rinv_reassign h c i hno rfl rfl rfl
  | true =>
    rw [connect_eq]
    split
    · exact rinv_emit (rinv_tick (rinv_connPre h c i client mount hno)) _ _
    · simp only
      apply rinv_emit
      have hM := rinv_connMid h c i client mount will hno
      have hsr := sr_connMid w c i client mount will
      have hcs := AgentT1.connMid_conns w c i client mount will
      generalize connMid w c i client mount will = W at hM hsr hcs
      have hno' : NoConn c W := hno.of_sameReg h hM hsr
      have hn := hM.node i
      refine rinv_setNode' hM i _ ⟨?_, ?_, hn.subsWF, hn.subsClock, hn.pendClock⟩ ?_
      · simp only [List.map_append, List.map_cons, List.map_nil]
        exact nodup_append_singleton hn.regNodup (noConn_notin hno' hM i)
      · intro s hs
        simp only [List.mem_append, List.mem_singleton] at hs
        rcases hs with hs | rfl
        · exact hn.regConn s hs
        · rfl
      · intro s hs
        simp only [List.mem_append, List.mem_singleton] at hs
        rcases hs with hs | rfl
        · exact hM.conns i s hs
        · rw [hcs]
          exact AgentT1.find_filter_append_self _ _ _

theorem noConn_of_find_none {w : World} (h : RInv w) {c : String} (hf : w.conns.find? (fun e => e.1 == c) = none) :
    NoConn c w := by
  intro j s hs e
  have := h.conns j s hs
  rw [e, hf] at this
  cases this

theorem noConn_of_noSess {w : World} (h : RInv w) {c x : String} {i : Nat}
    (hf : w.conns.find? (fun e => e.1 == c) = some (x, i)) (hno : (w.node i).sess ("S" ++ c) = none) : NoConn c w := by
  intro j s hs e
  have := h.conns j s hs
  rw [e, hf] at this
  simp only [Option.some.injEq, Prod.mk.injEq] at this
  have hj := this.2
  subst hj
  rw [sess_eq_none_iff] at hno
  apply hno
  refine List.mem_map.mpr ⟨s, hs, ?_⟩
  rw [(h.node _).regConn s hs, e]

theorem rinv_filterConns {w w' : World} (h : RInv w) (c : String) (hno : NoConn c w) (hn : w'.nodes = w.nodes)
    (hc : w'.conns = w.conns.filter (fun (e : String × Nat) => e.1 != c)) (hk : w'.clock = w.clock) : RInv w' :=
  rinv_conns h hn (Int.le_of_eq hk.symm) (fun j s hs => by
    rw [hc, AgentT1.find_filter_key_ne _ _ _ (Ne.symm (hno j s hs))]; exact h.conns j s hs)

theorem noConn_congr {w w' : World} {c : String} (h : NoConn c w) (hn : w'.nodes = w.nodes) : NoConn c w' :=
  fun j s hs => h j s (by rw [node_congr hn] at hs; exact hs)

theorem tdBase_unlisted (w : World) (i : Nat) (s : Sess) :
    tdBase { w with conns := w.conns.filter (fun e => e.1 != s.conn) } i s = tdBase w i s := by
  show s.topics.foldl (fun w t => w.subDelete i s.id t) ({ (w.setNode i _).emit s.conn .closed with
    conns := (w.conns.filter (fun e => e.1 != s.conn)).filter (fun (c : String × Nat) => c.1 != s.conn) } : World) = _
  rw [filter_filter_self]
  rfl

/-- taking the session's connection off the list first, as `World.drop` does, changes nothing: the shutdown does it again -/
theorem shutdown_unlisted {w : World} {i : Nat} {sid : String} {s : Sess} (hs : (w.node i).sess sid = some s) :
    World.shutdownSession { w with conns := w.conns.filter (fun e => e.1 != s.conn) } i sid = w.shutdownSession i sid := by
  rw [shutdown_eq w i sid s hs, shutdown_eq { w with conns := w.conns.filter (fun e => e.1 != s.conn) } i sid s hs,
    teardown_eq, teardown_eq, tdBase_unlisted]

theorem rinv_drop {w : World} (h : RInv w) (c : String) : RInv (w.drop c) ∧ NoConn c (w.drop c) := by
  unfold World.drop
  cases hf : w.conns.find? (fun e => e.1 == c) with
  | none => exact ⟨h, noConn_of_find_none h hf⟩
  | some p =>
    obtain ⟨x, i⟩ := p
    simp only []
    split
    · rename_i hhad
      obtain ⟨s, hs⟩ := Option.isSome_iff_exists.mp hhad
      obtain ⟨hmem, hid⟩ := sess_some hs
      have hsc : s.conn = c := S_inj (by rw [← (h.node i).regConn s hmem, hid])
      have e := shutdown_unlisted hs
      rw [hsc] at e
      rw [e]
      have hR := rinv_shutdown h i ("S" ++ c)
      refine ⟨hR, fun j y hy e => ?_⟩
      -- a session on `c` afterwards has the identifier "S" ++ c, which only node i had
      have hy' : "S" ++ c ∈ ((w.shutdownSession i ("S" ++ c)).node j).reg.map (·.id) :=
        List.mem_map.mpr ⟨y, hy, by rw [(hR.node j).regConn y hy, e]⟩
      rw [(sr_shutdown w i ("S" ++ c)).ids j, mem_ids_unreg] at hy'
      obtain ⟨z, hz, hzid⟩ := List.mem_map.mp hy'.1
      have hzc : z.conn = s.conn := S_inj (by rw [← (h.node j).regConn z hz, hzid, hsc])
      exact hy'.2 (rinv_conn_unique h hmem hz hzc).1 rfl
    · rename_i hhad
      have hno := noConn_of_noSess h hf (sess_none_of_not_isSome hhad)
      exact ⟨rinv_filterConns h c hno rfl rfl rfl, noConn_congr hno rfl⟩

/-! ### gossip, node failure, time -/

theorem rinv_mergeInto {w : World} (h : RInv w) (t : Nat) (evs : List Event) (he : ∀ ev ∈ evs, Old w.clock ev.subs) :
    RInv (w.setNode t { w.node t with dist := evs.foldl merge (w.node t).dist }) :=
  rinv_setDist h t _ (foldl_merge_step w.clock evs _ he)

theorem rinv_deliverGossip {w : World} (h : RInv w) (src dst : Nat) : RInv (w.deliverGossip src dst) := by
  unfold World.deliverGossip
  simp only []
  have h1 : RInv (w.setNode src { w.node src with pending := (w.node src).pending.filter (fun e => e.1 != dst) }) :=
    rinv_setPending h src _ (fun e he => (List.mem_filter.mp he).1)
  split
  · exact h1
  · refine rinv_mergeInto h1 dst _ ?_
    intro ev hev
    obtain ⟨e, he, rfl⟩ := List.mem_map.mp hev
    exact (h.node src).pendClock e (List.mem_filter.mp he).1

theorem rinv_leavePrefix {w : World} (h : RInv w) (i : Nat) (peer : Nat) : RInv (AgentA.leavePrefix w i peer) := by
  unfold AgentA.leavePrefix
  have hs := subBulkDelete_step (w.node i).dist w.clock (fun s => s.peer == peer) (h.node i).subsClock
  exact rinv_distWrite h i _ _ hs.1 hs.2

theorem rinv_notifyLeave {w : World} (h : RInv w) (i : Nat) (peer : Nat) : RInv (w.notifyLeave i peer) :=
  notifyLeave_rel (R := Keeps RInv) Keeps.refl Keeps.trans RInv.of_moves (fun _ i peer h => rinv_leavePrefix h i peer)
    (fun _ i _ h => rinv_setNode_same h i _) w i peer h

theorem find_filter_keep {α : Type} (p q : α → Bool) (l : List α) (x : α) (h : l.find? p = some x) (hq : q x = true) :
    (l.filter q).find? p = some x := by
  induction l with
  | nil => cases h
  | cons a rest ih =>
    simp only [List.find?_cons] at h
    split at h
    · rename_i hpa
      cases h
      simp [hq, hpa]
    · rename_i hpa
      by_cases hqa : q a = true
      · simp [hqa, hpa, ih h]
      · simp [hqa, ih h]

theorem rinv_nodeFail {w : World} (h : RInv w) (f : Nat) : RInv (w.nodeFail f) := by
  unfold World.nodeFail
  simp only []
  refine foldl_inv RInv _ _ _ ?_ ?_
  · refine foldl_inv RInv _ _ _ ?_ (fun b a _ hb => rinv_emit hb _ _)
    have hnf := h.node f
    refine ⟨h.clockPos, fun j => ?_, fun j s hs => ?_⟩
    · show NInv w.clock ((w.setNode f _).node j)
      rw [node_setNode]
      split
      · exact ⟨by simp, (fun s hs => by cases hs), hnf.subsWF, hnf.subsClock, (fun e he => by cases he)⟩
      · exact h.node j
    · have hs' : s ∈ ((w.setNode f { w.node f with failed := true, reg := [], pending := [] }).node j).reg := hs
      show (w.conns.filter (fun c => c.2 != f)).find? _ = _
      rw [node_setNode] at hs'
      split at hs'
      · cases hs'
      · rename_i hjf
        refine find_filter_keep _ _ _ _ (h.conns j s hs') ?_
        simp only [bne_iff_ne, ne_eq]
        intro e
        subst e
        have hlen : w.nodes.length ≤ j := by
          have : ¬ j < w.nodes.length := fun hlt => hjf ⟨rfl, hlt⟩
          omega
        rw [reg_oob w j hlen] at hs'
        cases hs'
  · intro b a _ hb
    split
    · exact rinv_notifyLeave hb _ _
    · exact hb

theorem rinv_idle {w : World} (h : RInv w) (ms : Int) : RInv (w.idle ms) :=
  idle_rel' (R := Keeps RInv) Keeps.refl Keeps.trans
    (now := fun _ _ h => rinv_frame h rfl rfl (Int.le_refl _))
    (timers := fun _ i _ h => rinv_setNode_same h i _)
    (peerWrite := fun _ i _ h => rinv_distWrite h i _ _ (SubsStep.of_eq rfl) (old_nil _))
    (shutdown := fun _ i sid h => rinv_shutdown h i sid) w ms h

/-! ### pool invariant and registry invariant together -/

def GI (w : World) : Prop := WorldPoolInv w ∧ RInv w

theorem gi_frame {w w' : World} (h : GI w) (hn : w'.nodes = w.nodes) (hc : w'.conns = w.conns)
    (hk : w'.clock = w.clock) : GI w' :=
  ⟨AgentT3.wpi_of_nodes hn h.1, rinv_frame h.2 hn hc (by rw [hk]; exact Int.le_refl _)⟩

theorem gi_shutdown {w : World} (h : GI w) (i : Nat) (sid : String) : GI (w.shutdownSession i sid) :=
  ⟨AgentT3.shutdownSession_inv w i sid h.1, rinv_shutdown h.2 i sid⟩

theorem gi_clientPacket {w : World} (h : GI w) (c : String) (p : CPkt) : GI (w.clientPacket c p) :=
  ⟨AgentT3.clientPacket_inv w c p h.1, rinv_clientPacket h.2 c p⟩

theorem gi_connect {w : World} (h : GI w) (c : String) (i : Nat) (client mount : String) (authOk : Bool)
    (keepalive : Nat) (will : Option Will) (hno : NoConn c w) : GI (w.connect c i client mount authOk keepalive will) :=
  ⟨AgentT3.connect_inv w c i client mount authOk keepalive will h.1, rinv_connect h.2 c i client mount authOk keepalive will hno⟩

theorem gi_drop {w : World} (h : GI w) (c : String) : GI (w.drop c) ∧ NoConn c (w.drop c) :=
  ⟨⟨AgentT3.drop_inv w c h.1, (rinv_drop h.2 c).1⟩, (rinv_drop h.2 c).2⟩

theorem shift_node (w : World) (ms : Int) (i : Nat) :
    World.node { w with nodes := w.nodes.map (fun n => { n with timers := n.timers.map (fun t => (t.1 + ms, t.2)) }) } i
      = { w.node i with timers := (w.node i).timers.map (fun t => (t.1 + ms, t.2)) } := by
  simp only [World.node, List.getD_eq_getElem?_getD, List.getElem?_map]
  cases w.nodes[i]? <;> rfl

theorem rinv_shift {w : World} (h : RInv w) (ms : Int) :
    RInv { w with nodes := w.nodes.map (fun n => { n with timers := n.timers.map (fun t => (t.1 + ms, t.2)) }) } := by
  refine ⟨h.clockPos, fun j => ?_, fun j s hs => ?_⟩
  · rw [shift_node]
    have hn := h.node j
    exact ⟨hn.regNodup, hn.regConn, hn.subsWF, hn.subsClock, hn.pendClock⟩
  · rw [shift_node] at hs
    exact h.conns j s hs

theorem gi_wire : WireInv GI NoConn where
  frame := gi_frame
  shutdown := gi_shutdown
  clientPacket := gi_clientPacket
  connect h c i client mount authOk ka will hno := gi_connect h c i client mount authOk ka will hno
  drop := gi_drop
  idle h ms := ⟨AgentT3.idle_inv _ ms h.1, rinv_idle h.2 ms⟩
  shift h ms := ⟨fun j => by rw [shift_node]; exact PoolInv.congr (n := World.node _ j) rfl (h.1 j), rinv_shift h.2 ms⟩
  unlisted h hf := noConn_of_find_none h.2 hf
  noSess h hf hno := noConn_of_noSess h.2 hf hno
  congr := noConn_congr
  unlist h hno hn hc hk := ⟨AgentT3.wpi_of_nodes hn h.1, rinv_filterConns h.2 _ hno hn hc hk⟩
  assign h hno hn hc hk := ⟨AgentT3.wpi_of_nodes hn h.1, rinv_reassign h.2 _ _ hno hn hc hk⟩

theorem gi_setBuf {w : World} (h : GI w) (c : String) (b : Wire.Bytes) : GI (setBuf w c b) := gi_wire.setBuf h c b

theorem gi_applyDecoded {w : World} (h : GI w) (c : String) (r : DRes) : GI (applyDecoded w c r) :=
  gi_wire.applyDecoded h c r

theorem gi_closeRaw {w : World} (h : GI w) (c : String) :
    GI (closeFromClientRaw w c) ∧ NoConn c (closeFromClientRaw w c) := gi_wire.closeRaw h c

theorem gi_closeFromClient {w : World} (h : GI w) (c : String) :
    GI (closeFromClient w c) ∧ NoConn c (closeFromClient w c) := gi_wire.closeFromClient h c

theorem gi_hsStep {w : World} (h : GI w) (e : String × Int) : GI (AgentT1.hsStep w e) := gi_wire.hsStep h e

theorem gi_elapse {w : World} (h : GI w) (ms : Int) : GI (Wasp.Wire.elapse w ms) := gi_wire.elapse h ms

theorem gi_init (n : Nat) : GI (World.init n) := by
  refine ⟨AgentT3.wpi_init n, (by show (0 : Int) < 1000; decide), fun i => ?_, fun i s hs => ?_⟩
  · have hreg : ((World.init n).node i).reg = [] ∧ ((World.init n).node i).dist.subs = [] ∧
        ((World.init n).node i).pending = [] := by
      unfold World.node World.init
      simp only [List.getD_eq_getElem?_getD, List.getElem?_map]
      cases (List.range n)[i]? <;> exact ⟨rfl, rfl, rfl⟩
    refine ⟨by rw [hreg.1]; simp, (by rw [hreg.1]; intro s hs; cases hs), ?_, (by rw [hreg.2.1]; intro kl hkl; cases hkl),
      (by rw [hreg.2.2]; intro e he; cases he)⟩
    rw [hreg.2.1]
    exact ⟨by simp, fun kl hkl => by cases hkl⟩
  · exfalso
    have hreg : ((World.init n).node i).reg = [] := by
      unfold World.node World.init
      simp only [List.getD_eq_getElem?_getD, List.getElem?_map]
      cases (List.range n)[i]? <;> rfl
    rw [hreg] at hs
    cases hs

theorem dropKth_mem (t : Nat) (l : List (Nat × Event)) : ∀ (k : Nat) (e : Nat × Event), e ∈ dropKth t l k → e ∈ l := by
  induction l with
  | nil => intro k e he; simp [dropKth] at he
  | cons x rest ih =>
    intro k e he
    simp only [dropKth] at he
    split at he
    · split at he
      · exact List.mem_cons_of_mem _ he
      · rcases List.mem_cons.mp he with rfl | he
        · exact List.mem_cons_self
        · exact List.mem_cons_of_mem _ (ih _ _ he)
    · rcases List.mem_cons.mp he with rfl | he
      · exact List.mem_cons_self
      · exact List.mem_cons_of_mem _ (ih _ _ he)

theorem gi_op_gossipOne {w : World} (h : GI w) (f t k : Nat) : GI (applyOp w (.gossipOne f t k)) := by
  simp only [applyOp]
  split
  · exact h
  · rename_i e he
    have hmem : e ∈ (w.node f).pending := (List.mem_filter.mp (List.mem_of_getElem? he)).1
    have h1 : GI (w.setNode f { w.node f with pending := dropKth t (w.node f).pending k }) :=
      ⟨AgentT3.wpi_frame (AgentA.WFrame.setNode _ _ _ rfl) h.1, rinv_setPending h.2 f _ (dropKth_mem t _ k)⟩
    split
    · exact h1
    · refine ⟨AgentT3.wpi_frame (AgentA.WFrame.setNode _ _ _ rfl) h1.1, rinv_setDist h1.2 t _ (merge_step _ _ _ ?_)⟩
      exact (h.2.node f).pendClock e hmem

theorem gi_op_loseGossip {w : World} (h : GI w) (f t : Nat) : GI (applyOp w (.loseGossip f t)) := by
  simp only [applyOp]
  exact ⟨AgentT3.wpi_frame (AgentA.WFrame.setNode _ _ _ rfl) h.1,
    rinv_setPending h.2 f _ (fun e he => (List.mem_filter.mp he).1)⟩

theorem gi_op_sync {w : World} (h : GI w) (f t : Nat) : GI (applyOp w (.sync f t)) := by
  simp only [applyOp]
  refine ⟨AgentT3.wpi_frame (AgentA.WFrame.setNode _ _ _ rfl) h.1, rinv_setDist h.2 t _ (merge_step _ _ _ ?_)⟩
  intro u hu
  simp only [snapshot, List.mem_flatMap] at hu
  obtain ⟨kl, hkl, hukl⟩ := hu
  exact (h.2.node f).subsClock kl hkl u hukl

theorem gi_setFlags {w : World} (h : GI w) (i : Nat) (n' : Node) (hc : AgentT3.pcore n' = AgentT3.pcore (w.node i))
    (hr : n'.reg = (w.node i).reg) (hs : n'.dist.subs = (w.node i).dist.subs) (hp : n'.pending = (w.node i).pending) :
    GI (w.setNode i n') :=
  ⟨AgentT3.wpi_setNode_core h.1 i n' hc, rinv_setNode_same h.2 i n' hr hs hp⟩

theorem gi_op_setPool {w : World} (h : GI w) (n : Nat) (lo hi : Int) : GI (applyOp w (.setPool n lo hi)) := by
  simp only [applyOp]
  split
  · rename_i hc
    obtain ⟨hst, hmsgs, hle⟩ := hc
    have hst' : (w.node n).stored = [] := List.isEmpty_iff.mp hst
    have hmsgs' : (w.node n).acks.msgs = [] := List.isEmpty_iff.mp hmsgs
    refine ⟨AgentT3.wpi_setNode h.1 n _ ?_, rinv_setNode_same h.2 n _⟩
    have hn := h.1 n
    constructor
    · exact IdPool.new_inv lo hi hle
    · exact hn.qinv
    · intro k m hm
      have hm' : (k, m) ∈ (w.node n).acks.msgs := hm
      rw [hmsgs'] at hm'; cases hm'
    · intro k st sid mid hm
      have hm' : (k, st) ∈ (w.node n).stored := hm
      rw [hst'] at hm'; cases hm'
    · intro k s c p m hm
      have hm' : (k, Stored.inbound s c p m) ∈ (w.node n).stored := hm
      rw [hst'] at hm'; cases hm'
    · intro k₁ st₁ k₂ st₂ s₁ s₂ mid hm
      have hm' : (k₁, st₁) ∈ (w.node n).stored := hm
      rw [hst'] at hm'; cases hm'
  · exact h

theorem gi_step {w : World} (h : GI w) (op : BOp) : GI (applyOp w op) := by
  cases op with
  | connect c node client mount authOk ka will => exact gi_wire.op_connect h c node client mount authOk ka will
  | packet c pkt => exact gi_wire.op_packet h c pkt
  | drop c => exact (gi_wire.closeFromClient h c).1
  | openConn c node => exact gi_wire.op_openConn h c node
  | raw c b => exact gi_wire.rawBytes h c b
  | gossipAll => exact ⟨AgentT3.gossipAll_inv w h.1, gossipAll_rel (R := Keeps RInv) Keeps.refl Keeps.trans (fun _ a b h => rinv_deliverGossip h a b) w h.2⟩
  | gossip f t => exact ⟨AgentT3.deliverGossip_inv w f t h.1, rinv_deliverGossip h.2 f t⟩
  | gossipOne f t k => exact gi_op_gossipOne h f t k
  | loseGossip f t => exact gi_op_loseGossip h f t
  | sync f t => exact gi_op_sync h f t
  | unreachable n b => exact gi_setFlags h n _ rfl rfl rfl rfl
  | logFailAll n b => exact gi_setFlags h n _ rfl rfl rfl rfl
  | logFailAt n k => exact gi_setFlags h n _ rfl rfl rfl rfl
  | logFailNone n => exact gi_setFlags h n _ rfl rfl rfl rfl
  | nodeFail n => exact ⟨AgentT3.nodeFail_inv w n h.1, rinv_nodeFail h.2 n⟩
  | sweep n => exact ⟨AgentT3.sweep_inv w n h.1, .of_moves (moves_sweep w n) h.2⟩
  | idle ms => exact gi_wire.wireIdle h ms
  | elapse ms => exact gi_elapse h ms
  | setPool n lo hi => exact gi_op_setPool h n lo hi
  | rpcPublish n topic payload =>
    exact ⟨AgentT3.distribute_inv w n _ h.1, .of_moves (moves_distribute w n _) h.2⟩

theorem gi_run (ops : List BOp) (w : World) (h : GI w) : GI (run w ops) :=
  foldl_inv GI applyOp ops w h (fun _ op _ hb => gi_step hb op)

end Wasp.Broker.AgentT5
