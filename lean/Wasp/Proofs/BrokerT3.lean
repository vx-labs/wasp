import Wasp.Model.Broker
import Wasp.Proofs.IdPool
import Wasp.Proofs.AckQueue
import Wasp.Proofs.BrokerA
import Wasp.Proofs.BrokerB
import Wasp.Proofs.BrokerD
import Wasp.Proofs.BrokerRel
import Std.Data.String.ToInt
/-!
The cross-component invariant between the identifier pool, the in-flight table and the stored callbacks of
a node (`PoolInv`), and its preservation by the operations of the broker model: for Properties/C02Pool, where it
discharges the freshness assumption of C02.
-/
namespace Wasp.Broker

/-- session and packet identifier of an OUTBOUND in-flight entry (identifier drawn from the node's pool) -/
def Stored.out? : Stored → Option (String × Int)
  | .out1 s _ _ _ _ m => some (s, m)
  | .out2 s _ _ _ _ m => some (s, m)
  | .rel s m => some (s, m)
  | .inbound .. => none

/-- The cross-component invariant of one node.
* `pool`  the interval list of the pool is well formed (`IdPool.Inv`);
* `qinv`  the in-flight table is coherent (`Ack.QInv`: keys without duplicates, timers ↔ entries);
* `sub`   every key of the in-flight table has a stored callback;
* `key`   an OUTBOUND callback `(k, st)` is filed under the key of its own session and identifier, and that
          identifier is NOT free in the pool;
* `inb`   an inbound callback is filed under `hashKey (sess ++ "/in") mid`;
* `uniq`  two outbound callbacks holding the same identifier are filed under the same key (an identifier is
          held by at most one exchange of the node, whatever the session). -/
structure PoolInv (n : Node) : Prop where
  pool : IdPool.Inv n.pool
  qinv : Ack.QInv n.acks
  sub : ∀ k m, (k, m) ∈ n.acks.msgs → ∃ st, (k, st) ∈ n.stored
  key : ∀ k st sid mid, (k, st) ∈ n.stored → st.out? = some (sid, mid) →
    k = Ack.hashKey sid mid ∧ ¬ IdPool.freeIn n.pool.ivs mid
  inb : ∀ k s c p m, (k, Stored.inbound s c p m) ∈ n.stored → k = Ack.hashKey (s ++ "/in") m
  uniq : ∀ k₁ st₁ k₂ st₂ s₁ s₂ mid, (k₁, st₁) ∈ n.stored → (k₂, st₂) ∈ n.stored →
    st₁.out? = some (s₁, mid) → st₂.out? = some (s₂, mid) → k₁ = k₂

def WorldPoolInv (w : World) : Prop := ∀ i, PoolInv (w.node i)

/-- no outbound callback of the node holds identifier `mid` -/
def Unheld (n : Node) (mid : Int) : Prop :=
  ∀ k st sid, (k, st) ∈ n.stored → st.out? ≠ some (sid, mid)

end Wasp.Broker

namespace Wasp.Broker.AgentT3
open Wasp.Broker Wasp.Dist Wasp.Topic

theorem hashKey_inj {a b : String} {m m' : Int} (h : Ack.hashKey a m = Ack.hashKey b m') : a = b ∧ m = m' := by
  have hab : a = b := AgentB.hashKey_prefix_inj h
  subst hab
  refine ⟨rfl, ?_⟩
  unfold Ack.hashKey at h
  have h2 := (String.append_right_inj _).mp h
  rw [Int.toString_eq_repr, Int.toString_eq_repr] at h2
  exact Int.repr_injective h2

/-! ### the part of a node the invariant speaks about -/

def pcore (n : Node) : Ack.Queue × List (Ack.Key × Stored) × IdPool.Pool := (n.acks, n.stored, n.pool)

theorem pcore_eq {n n' : Node} (h : pcore n' = pcore n) :
    n'.acks = n.acks ∧ n'.stored = n.stored ∧ n'.pool = n.pool := by
  simp only [pcore, Prod.mk.injEq] at h
  exact h

theorem _root_.Wasp.Broker.PoolInv.congr {n n' : Node} (h : pcore n' = pcore n) (hn : PoolInv n) : PoolInv n' := by
  obtain ⟨h1, h2, h3⟩ := pcore_eq h
  constructor
  · rw [h3]; exact hn.pool
  · rw [h1]; exact hn.qinv
  · rw [h1, h2]; exact hn.sub
  · rw [h2, h3]; exact hn.key
  · rw [h2]; exact hn.inb
  · rw [h2]; exact hn.uniq

theorem _root_.Wasp.Broker.Unheld.congr {n n' : Node} {mid : Int} (h : n'.stored = n.stored) (hn : Unheld n mid) : Unheld n' mid := by
  unfold Unheld; rw [h]; exact hn

/-- a held identifier is not free; hence a free identifier is unheld -/
theorem _root_.Wasp.Broker.PoolInv.unheld_of_free {n : Node} (hn : PoolInv n) {mid : Int} (hf : IdPool.freeIn n.pool.ivs mid) :
    Unheld n mid := by
  intro k st sid hm ho
  exact (hn.key k st sid mid hm ho).2 hf

/-- a new exchange is armed: its key was not in flight; if it is outbound it is filed under its own key and
    its identifier is reserved (not free) and unheld -/
theorem _root_.Wasp.Broker.PoolInv.arm {n : Node} (hn : PoolInv n) (k : Ack.Key) (m : Ack.Msg) (st : Stored)
    (hk : Ack.msgFind k n.acks.msgs = none)
    (hout : ∀ sid mid, st.out? = some (sid, mid) →
      k = Ack.hashKey sid mid ∧ ¬ IdPool.freeIn n.pool.ivs mid ∧ Unheld n mid)
    (hin : ∀ s c p mid, st = Stored.inbound s c p mid → k = Ack.hashKey (s ++ "/in") mid) :
    PoolInv { n with
      acks := { msgs := n.acks.msgs ++ [(k, m)], timeouts := Ack.pqInsert k m.deadline n.acks.timeouts },
      stored := n.stored ++ [(k, st)] } := by
  constructor
  · exact hn.pool
  · exact Ack.qinv_insert hn.qinv k m hk
  · intro k' m' hm
    simp only [List.mem_append, List.mem_singleton, Prod.mk.injEq] at hm ⊢
    rcases hm with hm | ⟨rfl, _⟩
    · obtain ⟨st', hst'⟩ := hn.sub k' m' hm
      exact ⟨st', Or.inl hst'⟩
    · exact ⟨st, Or.inr ⟨rfl, rfl⟩⟩
  · intro k' st' sid mid hm ho
    simp only [List.mem_append, List.mem_singleton, Prod.mk.injEq] at hm
    rcases hm with hm | ⟨rfl, rfl⟩
    · exact hn.key k' st' sid mid hm ho
    · exact ⟨(hout sid mid ho).1, (hout sid mid ho).2.1⟩
  · intro k' s c p mid hm
    simp only [List.mem_append, List.mem_singleton, Prod.mk.injEq] at hm
    rcases hm with hm | ⟨rfl, rfl⟩
    · exact hn.inb k' s c p mid hm
    · exact hin s c p mid rfl
  · intro k₁ st₁ k₂ st₂ s₁ s₂ mid h1 h2 o1 o2
    simp only [List.mem_append, List.mem_singleton, Prod.mk.injEq] at h1 h2
    rcases h1 with h1 | ⟨rfl, rfl⟩ <;> rcases h2 with h2 | ⟨rfl, rfl⟩
    · exact hn.uniq k₁ st₁ k₂ st₂ s₁ s₂ mid h1 h2 o1 o2
    · exact absurd o1 ((hout s₂ mid o2).2.2 k₁ st₁ s₁ h1)
    · exact absurd o2 ((hout s₁ mid o1).2.2 k₂ st₂ s₂ h2)
    · rfl

theorem _root_.Wasp.Broker.PoolInv.put {n : Node} (hn : PoolInv n) (mid : Int) (hu : Unheld n mid) :
    PoolInv { n with pool := IdPool.put n.pool mid } := by
  have hp := IdPool.put_spec n.pool hn.pool mid
  constructor
  · exact hp.1
  · exact hn.qinv
  · exact hn.sub
  · intro k st sid mid' hm ho
    refine ⟨(hn.key k st sid mid' hm ho).1, ?_⟩
    intro hf
    rcases (hp.2 mid').mp hf with hf | ⟨rfl, _⟩
    · exact (hn.key k st sid mid' hm ho).2 hf
    · exact hu k st sid hm ho
  · exact hn.inb
  · exact hn.uniq

theorem _root_.Wasp.Broker.PoolInv.get {n : Node} (hn : PoolInv n) :
    PoolInv { n with pool := (IdPool.get n.pool).1 } ∧
    (0 < (IdPool.get n.pool).2 →
      Unheld n (IdPool.get n.pool).2 ∧ ¬ IdPool.freeIn (IdPool.get n.pool).1.ivs (IdPool.get n.pool).2) := by
  by_cases hne : n.pool.ivs = []
  · rw [IdPool.get_empty n.pool hne]
    exact ⟨hn, fun h => absurd h (by simp)⟩
  · have hg := IdPool.get_spec n.pool hn.pool hne
    refine ⟨?_, fun _ => ⟨hn.unheld_of_free hg.2.1, fun hf => ?_⟩⟩
    · constructor
      · exact hg.1
      · exact hn.qinv
      · exact hn.sub
      · intro k st sid mid hm ho
        refine ⟨(hn.key k st sid mid hm ho).1, fun hf => ?_⟩
        exact (hn.key k st sid mid hm ho).2 ((hg.2.2.2.2 mid).mp hf).1
      · exact hn.inb
      · exact hn.uniq
    · exact ((hg.2.2.2.2 _).mp hf).2 rfl

theorem _root_.Wasp.Broker.PoolInv.eraseStored {n : Node} (hn : PoolInv n) (k : Ack.Key) (hk : Ack.msgFind k n.acks.msgs = none) :
    PoolInv { n with stored := storedErase k n.stored } := by
  constructor
  · exact hn.pool
  · exact hn.qinv
  · intro k' m' hm
    obtain ⟨st', hst'⟩ := hn.sub k' m' hm
    refine ⟨st', mem_storedErase.mpr ⟨hst', ?_⟩⟩
    rintro rfl
    exact (Ack.msgFind_none_iff.mp hk) (List.mem_map.mpr ⟨(k', m'), hm, rfl⟩)
  · intro k' st' sid mid hm ho
    exact hn.key k' st' sid mid (mem_storedErase.mp hm).1 ho
  · intro k' s c p mid hm
    exact hn.inb k' s c p mid (mem_storedErase.mp hm).1
  · intro k₁ st₁ k₂ st₂ s₁ s₂ mid h1 h2 o1 o2
    exact hn.uniq k₁ st₁ k₂ st₂ s₁ s₂ mid (mem_storedErase.mp h1).1 (mem_storedErase.mp h2).1 o1 o2

theorem _root_.Wasp.Broker.PoolInv.erased_reserved {n : Node} (hn : PoolInv n) {k : Ack.Key} {st : Stored} (hm : (k, st) ∈ n.stored)
    {sid : String} {mid : Int} (ho : st.out? = some (sid, mid)) :
    k = Ack.hashKey sid mid ∧ ¬ IdPool.freeIn n.pool.ivs mid ∧
      Unheld { n with stored := storedErase k n.stored } mid := by
  refine ⟨(hn.key k st sid mid hm ho).1, (hn.key k st sid mid hm ho).2, ?_⟩
  intro k' st' sid' hm' ho'
  obtain ⟨h1, h2⟩ := mem_storedErase.mp hm'
  exact h2 (hn.uniq k' st' k st sid' sid mid h1 hm ho' ho)

theorem _root_.Wasp.Broker.PoolInv.ackErase {n : Node} (hn : PoolInv n) (k : Ack.Key) (m : Ack.Msg)
    (hk : Ack.msgFind k n.acks.msgs = some m) :
    PoolInv { n with acks := { msgs := Ack.msgErase k n.acks.msgs,
                               timeouts := (Ack.pqDelete k m.deadline n.acks.timeouts).1 } } ∧
    Ack.msgFind k (Ack.msgErase k n.acks.msgs) = none := by
  refine ⟨?_, Ack.msgFind_erase_self hn.qinv.keysNodup⟩
  constructor
  · exact hn.pool
  · exact Ack.qinv_ack hn.qinv k m hk
  · intro k' m' hm
    exact hn.sub k' m' ((Ack.msgErase_sublist k n.acks.msgs).subset hm)
  · exact hn.key
  · exact hn.inb
  · exact hn.uniq

theorem _root_.Wasp.Broker.PoolInv.expire {n : Node} (hn : PoolInv n) (now : Ack.Time) :
    PoolInv { n with acks := (Ack.expire n.acks now).1 } ∧
    ((Ack.expire n.acks now).2.map (·.key)).Nodup ∧
    ∀ ev ∈ (Ack.expire n.acks now).2, Ack.msgFind ev.key (Ack.expire n.acks now).1.msgs = none := by
  refine ⟨?_, hn.qinv.expire_events_nodup now, ?_⟩
  · constructor
    · exact hn.pool
    · exact Ack.qinv_expire hn.qinv now
    · intro k' m' hm
      refine hn.sub k' m' ?_
      rw [Ack.expire_eq] at hm
      exact (Ack.expireKeys_sublist _ _).subset hm
    · exact hn.key
    · exact hn.inb
    · exact hn.uniq
  · intro ev hev
    obtain ⟨m, h1, h2, _⟩ := (hn.qinv.expire_events now ev).mp hev
    rw [hn.qinv.expire_find now ev.key, h1]
    simp [h2]


open Wasp.Broker.AgentA (WFrame)

theorem wpi_frame {w w' : World} (hf : WFrame pcore w w') (h : WorldPoolInv w) : WorldPoolInv w' :=
  fun j => (h j).congr (hf.2 j)

theorem wpi_setNode {w : World} (h : WorldPoolInv w) (i : Nat) (n' : Node) (hn : PoolInv n') :
    WorldPoolInv (w.setNode i n') := by
  intro j
  rw [node_setNode]
  split
  · exact hn
  · exact h j

theorem wpi_setNode_core {w : World} (h : WorldPoolInv w) (i : Nat) (n' : Node) (hc : pcore n' = pcore (w.node i)) :
    WorldPoolInv (w.setNode i n') :=
  wpi_frame (WFrame.setNode _ _ _ hc) h

theorem wpi_emit {w : World} (h : WorldPoolInv w) (c : String) (p : Pkt) : WorldPoolInv (w.emit c p) := h

theorem wpi_of_nodes {w w' : World} (hn : w'.nodes = w.nodes) (h : WorldPoolInv w) : WorldPoolInv w' :=
  wpi_frame (WFrame.of_nodes pcore hn) h

theorem sess_lt {w : World} {i : Nat} {sid : String} {s : Sess} (h : (w.node i).sess sid = some s) :
    i < w.nodes.length := by
  by_cases hc : i < w.nodes.length
  · exact hc
  · have := AgentD.reg_oob w i (by omega)
    simp [Node.sess, this] at h

theorem f_broadcast (w : World) (i : Nat) (ev : Event) : WFrame pcore w (w.broadcast i ev) :=
  WFrame.setNode _ _ _ rfl

theorem f_setDist (w : World) (i : Nat) (d : State) : WFrame pcore w (w.setNode i { w.node i with dist := d }) :=
  WFrame.setNode _ _ _ rfl

/-! `f_setDist` and the next three are stated for a variable `w`: with a long expression for the world,
    `WFrame.setNode _ _ _ rfl` makes the unifier evaluate that expression. -/

theorem f_setReg (w : World) (i : Nat) (r : List Sess) : WFrame pcore w (w.setNode i { w.node i with reg := r }) :=
  WFrame.setNode _ _ _ rfl

theorem f_setSess (w : World) (i : Nat) (s : Sess) : WFrame pcore w (w.setNode i ((w.node i).setSess s)) :=
  WFrame.setNode _ _ _ rfl

theorem f_setTimers (w : World) (i : Nat) (t : List (Int × Nat)) :
    WFrame pcore w (w.setNode i { w.node i with timers := t }) :=
  WFrame.setNode _ _ _ rfl

theorem f_extendDeadline (w : World) (i : Nat) (sid : String) : WFrame pcore w (w.extendDeadline i sid) :=
  extendDeadline_of (P := WFrame pcore w) (WFrame.refl _ w) (fun _ _ => f_setSess w i _)

theorem f_subCreate (w : World) (i : Nat) (sid pat : String) (qos : Int) : WFrame pcore w (w.subCreate i sid pat qos) := by
  unfold World.subCreate
  exact WFrame.after (f_broadcast _ _ _) (WFrame.after (WFrame.setNode _ _ _ rfl) (AgentA.tick_frame pcore w))

theorem f_subDelete (w : World) (i : Nat) (sid pat : String) : WFrame pcore w (w.subDelete i sid pat) := by
  unfold World.subDelete
  exact WFrame.after (f_broadcast _ _ _) (WFrame.after (WFrame.setNode _ _ _ rfl) (AgentA.tick_frame pcore w))

theorem initPool_inv : IdPool.Inv initPool := by
  simp [initPool, IdPool.Inv, IdPool.get, IdPool.new, IdPool.Sep]

theorem poolInv_fresh (n : Node) (ha : n.acks = {}) (hs : n.stored = []) (hp : n.pool = initPool) : PoolInv n := by
  constructor
  · rw [hp]; exact initPool_inv
  · rw [ha]; exact Ack.qinv_init
  · rw [ha]; intro k m hm; simp at hm
  · rw [hs]; intro k st sid mid hm; simp at hm
  · rw [hs]; intro k s c p m hm; simp at hm
  · rw [hs]; intro k₁ st₁ k₂ st₂ s₁ s₂ mid hm; simp at hm

theorem wpi_init (n : Nat) : WorldPoolInv (World.init n) := by
  intro i
  unfold World.node World.init
  simp only [List.getD_eq_getElem?_getD, List.getElem?_map]
  cases h : (List.range n)[i]? with
  | none => exact poolInv_fresh _ rfl rfl rfl
  | some j => exact poolInv_fresh _ rfl rfl rfl

/-- what `armAndSend` does to the pool-relevant part: nothing, or exactly one new exchange on node i, filed
    under `k`, which was not in flight -/
def ArmedAt (w w' : World) (i : Nat) (k : Ack.Key) (st : Stored) : Prop :=
  i < w.nodes.length ∧ Ack.msgFind k (w.node i).acks.msgs = none ∧
  (∃ m, (w'.node i).acks = { msgs := (w.node i).acks.msgs ++ [(k, m)],
                             timeouts := Ack.pqInsert k m.deadline (w.node i).acks.timeouts }) ∧
  (w'.node i).stored = (w.node i).stored ++ [(k, st)] ∧ (w'.node i).pool = (w.node i).pool ∧
  ∀ j, j ≠ i → pcore (w'.node j) = pcore (w.node j)

theorem armedAt_of (w w1 : World) (i : Nat) (k : Ack.Key) (st : Stored) (m : Ack.Msg) (c : String) (pk : Pkt)
    (hf : WFrame pcore w w1) (hi : i < w.nodes.length)
    (hk : Ack.msgFind k (w1.node i).acks.msgs = none) :
    ArmedAt w ((w1.setNode i { w1.node i with
        acks := { msgs := (w1.node i).acks.msgs ++ [(k, m)], timeouts := Ack.pqInsert k m.deadline (w1.node i).acks.timeouts },
        stored := (w1.node i).stored ++ [(k, st)] }).emit c pk) i k st := by
  obtain ⟨h1, h2, h3⟩ := pcore_eq (hf.2 i)
  have hi1 : i < w1.nodes.length := by rw [hf.1]; exact hi
  refine ⟨hi, by rw [← h1]; exact hk, ⟨m, ?_⟩, ?_, ?_, fun j hj => ?_⟩
  · show ((w1.setNode i _).node i).acks = _
    rw [node_setNode_self _ _ _ hi1, ← h1]
  · show ((w1.setNode i _).node i).stored = _
    rw [node_setNode_self _ _ _ hi1, ← h2]
  · show ((w1.setNode i _).node i).pool = _
    rw [node_setNode_self _ _ _ hi1, ← h3]
  · show pcore ((w1.setNode i _).node j) = _
    rw [node_setNode_ne _ _ _ _ hj]
    exact hf.2 j

theorem out?_of_arm {st : Stored} {sid : String} {kind : Ack.PType} {qos : Nat} {mid : Int} {pk : Pkt}
    (h : st.arm = some (sid, kind, qos, mid, pk)) : st.out? = some (sid, mid) := by
  cases st with
  | inbound => cases h
  | out1 => cases h; rfl
  | out2 => cases h; rfl
  | rel => cases h; rfl

theorem armAndSend_cases (w : World) (i : Nat) (st : Stored) :
    WFrame pcore w (w.armAndSend i st) ∨
    ∃ sid mid, st.out? = some (sid, mid) ∧ ArmedAt w (w.armAndSend i st) i (Ack.hashKey sid mid) st := by
  refine armAndSend_of
    (P := fun w' => WFrame pcore w w' ∨ ∃ sid mid, st.out? = some (sid, mid) ∧ ArmedAt w w' i (Ack.hashKey sid mid) st)
    (h0 := Or.inl (WFrame.refl _ w)) (hd := fun x => Or.inl (f_extendDeadline w i x))
    (hw := fun sid _ _ _ _ _ _ _ => Or.inl (WFrame.after (WFrame.emit _ _ _ _) (f_extendDeadline w i sid))) (ha := ?_)
  intro sid kind qos mid pk s ha hs hok
  rcases Ack.insert_cases ((w.extendDeadline i sid).node i).acks sid kind qos mid (ackDeadline (w.extendDeadline i sid))
    with ⟨_, h2⟩ | ⟨st', _, hnone, heq⟩
  · exact absurd hok h2
  · rw [heq]
    exact Or.inr ⟨sid, mid, out?_of_arm ha, armedAt_of w _ i _ _ _ _ _ (f_extendDeadline w i sid) (sess_lt hs) hnone⟩

theorem wpi_armedAt {w w' : World} {i : Nat} {k : Ack.Key} {st : Stored} (h : WorldPoolInv w)
    (ha : ArmedAt w w' i k st)
    (hout : ∀ sid mid, st.out? = some (sid, mid) →
      k = Ack.hashKey sid mid ∧ ¬ IdPool.freeIn (w.node i).pool.ivs mid ∧ Unheld (w.node i) mid)
    (hin : ∀ s c p mid, st = Stored.inbound s c p mid → k = Ack.hashKey (s ++ "/in") mid) :
    WorldPoolInv w' := by
  obtain ⟨_, hk, ⟨m, ha1⟩, ha2, ha3, hj⟩ := ha
  intro j
  by_cases e : j = i
  · subst e
    refine ((h j).arm k m st hk hout hin).congr ?_
    simp only [pcore, ha1, ha2, ha3]
  · exact (h j).congr (hj j e)

theorem armAndSend_inv (w : World) (i : Nat) (st : Stored) (h : WorldPoolInv w)
    (hres : ∀ sid mid, st.out? = some (sid, mid) →
      ¬ IdPool.freeIn (w.node i).pool.ivs mid ∧ Unheld (w.node i) mid) :
    WorldPoolInv (w.armAndSend i st) := by
  rcases armAndSend_cases w i st with hf | ⟨sid, mid, ho, ha⟩
  · exact wpi_frame hf h
  · refine wpi_armedAt h ha ?_ ?_
    · intro sid' mid' ho'
      rw [ho] at ho'
      cases ho'
      exact ⟨rfl, hres sid mid ho⟩
    · intro s c p mid' e
      rw [e] at ho
      cases ho

theorem poolPut_inv (w : World) (i : Nat) (mid : Int) (h : WorldPoolInv w) (hu : Unheld (w.node i) mid) :
    WorldPoolInv (w.poolPut i mid) := by
  unfold World.poolPut
  exact wpi_setNode h i _ ((h i).put mid hu)

theorem sendArmed_inv (w : World) (i : Nat) (st : Stored) (sid : String) (mid : Int) (h : WorldPoolInv w)
    (ho : st.out? = some (sid, mid))
    (hfree : ¬ IdPool.freeIn (w.node i).pool.ivs mid) (hu : Unheld (w.node i) mid) :
    WorldPoolInv (w.sendArmed i st sid mid) := by
  have hinv := armAndSend_inv w i st h (fun sid' mid' ho' => by
    rw [ho] at ho'; cases ho'; exact ⟨hfree, hu⟩)
  refine sendArmed_of hinv fun hc => ?_
  rcases armAndSend_cases w i st with hf | ⟨sid', mid', _, ha⟩
  · exact poolPut_inv _ i mid hinv (hu.congr (pcore_eq (hf.2 i)).2.1)
  · exfalso
    obtain ⟨_, _, ⟨m, ha1⟩, _⟩ := ha
    rw [ha1] at hc
    simp at hc

theorem send_inv (i : Nat) (p : Pub) (rcpt : List (String × Int)) :
    ∀ w : World, WorldPoolInv w → WorldPoolInv (w.send i rcpt p) := by
  refine send_of (P := WorldPoolInv) (fun w sid _ _ h => wpi_emit (wpi_frame (f_extendDeadline w i sid) h) _ _) ?_ rcpt
  intro w sid qos s hs hpos h
  have hg := ((h i).get).2 (by omega)
  have hn : (w.setNode i { w.node i with pool := (IdPool.get (w.node i).pool).1 }).node i =
      { w.node i with pool := (IdPool.get (w.node i).pool).1 } := node_setNode_self _ _ _ (sess_lt hs)
  refine sendArmed_inv _ i _ sid _ (wpi_setNode h i _ (h i).get.1) ?_ ?_ ?_
  · split <;> rfl
  · rw [hn]; exact hg.2
  · rw [hn]; exact hg.1

theorem deliverLocal_inv (w : World) (j : Nat) (p : Pub) (h : WorldPoolInv w) : WorldPoolInv (w.deliverLocal j p) := by
  unfold World.deliverLocal
  exact send_inv _ _ _ _ h


theorem onResolved_inv (w : World) (i : Nat) (ev : Ack.Resolved) (st : Stored) (h : WorldPoolInv w)
    (hres : ∀ sid mid, st.out? = some (sid, mid) →
      ¬ IdPool.freeIn (w.node i).pool.ivs mid ∧ Unheld (w.node i) mid) :
    WorldPoolInv (w.onResolved i ev st) := by
  refine onResolved_of (P := WorldPoolInv) (h0 := h) (arm := ?_)
    (put := fun sid _ _ mid _ ha => poolPut_inv w i mid h (hres sid mid (out?_of_arm ha)).2)
  intro st' sid _ _ mid _ _ _ _ ha ha'
  refine armAndSend_inv w i st' h fun sid' mid' ho => ?_
  rw [out?_of_arm ha'] at ho
  cases ho
  exact hres sid mid (out?_of_arm ha)

theorem poolPut_acks (w : World) (i : Nat) (mid : Int) (j : Nat) :
    ((w.poolPut i mid).node j).acks = (w.node j).acks := by
  unfold World.poolPut
  rw [node_setNode]
  split
  · rename_i hc; rw [hc.1]
  · rfl

theorem armAndSend_otherKeys (w : World) (i : Nat) (st : Stored) {sid : String} {mid : Int}
    (ho : st.out? = some (sid, mid)) (k' : Ack.Key) (hk : k' ≠ Ack.hashKey sid mid) :
    Ack.msgFind k' ((w.armAndSend i st).node i).acks.msgs = Ack.msgFind k' (w.node i).acks.msgs := by
  rcases armAndSend_cases w i st with hf | ⟨sid', mid', ho', ha⟩
  · rw [(pcore_eq (hf.2 i)).1]
  · rw [ho] at ho'
    cases ho'
    obtain ⟨_, _, ⟨m, ha1⟩, _⟩ := ha
    rw [ha1]
    simp only []
    rw [Ack.msgFind_append]
    cases Ack.msgFind k' (w.node i).acks.msgs with
    | some x => rfl
    | none => simp [Ack.msgFind, Ne.symm hk]

theorem onResolved_otherKeys (w : World) (i : Nat) (ev : Ack.Resolved) (st : Stored) {sid : String} {mid : Int}
    (ho : st.out? = some (sid, mid)) (k' : Ack.Key) (hk : k' ≠ Ack.hashKey sid mid) :
    Ack.msgFind k' ((w.onResolved i ev st).node i).acks.msgs = Ack.msgFind k' (w.node i).acks.msgs := by
  refine onResolved_of (P := fun w' => Ack.msgFind k' (w'.node i).acks.msgs = Ack.msgFind k' (w.node i).acks.msgs)
    (h0 := rfl) (arm := ?_) (put := fun _ _ _ mid' _ _ => by rw [poolPut_acks])
  intro st' sid' _ _ mid' _ _ _ _ ha ha'
  rw [out?_of_arm ha] at ho
  cases ho
  exact armAndSend_otherKeys w i st' (out?_of_arm ha') k' hk

theorem stored_lt {w : World} {i : Nat} {e : Ack.Key × Stored} (h : e ∈ (w.node i).stored) : i < w.nodes.length := by
  by_cases hc : i < w.nodes.length
  · exact hc
  · rw [node_oob w i (by omega)] at h
    simp at h


theorem resolveOut_inv (w : World) (i : Nat) (ev : Ack.Resolved) (st : Stored) (h : WorldPoolInv w)
    (hk : Ack.msgFind ev.key (w.node i).acks.msgs = none) (hst : storedFind ev.key (w.node i).stored = some st) :
    WorldPoolInv ((w.setNode i { w.node i with stored := storedErase ev.key (w.node i).stored }).onResolved i ev st) ∧
    ∀ k', k' ≠ ev.key →
      Ack.msgFind k' (((w.setNode i { w.node i with stored := storedErase ev.key (w.node i).stored }).onResolved i ev st).node i).acks.msgs
        = Ack.msgFind k' (w.node i).acks.msgs := by
  have hm := storedFind_mem hst
  have hi := stored_lt hm
  have hn0 : (w.setNode i { w.node i with stored := storedErase ev.key (w.node i).stored }).node i =
      { w.node i with stored := storedErase ev.key (w.node i).stored } := node_setNode_self _ _ _ hi
  have h0 : WorldPoolInv (w.setNode i { w.node i with stored := storedErase ev.key (w.node i).stored }) :=
    wpi_setNode h i _ ((h i).eraseStored ev.key hk)
  constructor
  · refine onResolved_inv _ i ev st h0 ?_
    intro sid mid ho
    have hr := (h i).erased_reserved hm ho
    rw [hn0]
    exact ⟨hr.2.1, hr.2.2⟩
  · intro k' hk'
    cases ho : st.out? with
    | none =>
      cases st with
      | inbound a b c d => show Ack.msgFind k' ((w.setNode i _).node i).acks.msgs = _; rw [hn0]
      | out1 a b c d e f => cases ho
      | out2 a b c d e f => cases ho
      | rel a b => cases ho
    | some sm =>
      obtain ⟨sid, mid⟩ := sm
      have hr := (h i).erased_reserved hm ho
      rw [onResolved_otherKeys _ i ev st ho k' (by rw [← hr.1]; exact hk'), hn0]

theorem resolveStep_inv (w : World) (i : Nat) (ev : Ack.Resolved) (h : WorldPoolInv w)
    (hk : Ack.msgFind ev.key (w.node i).acks.msgs = none) :
    WorldPoolInv (resolveStep i w ev) ∧
    ∀ k', k' ≠ ev.key → Ack.msgFind k' ((resolveStep i w ev).node i).acks.msgs = Ack.msgFind k' (w.node i).acks.msgs := by
  unfold resolveStep
  split
  · exact ⟨h, fun _ _ => rfl⟩
  · rename_i st hst
    exact resolveOut_inv w i ev st h hk hst

theorem resolveFold_inv (i : Nat) (evs : List Ack.Resolved) : ∀ w : World, WorldPoolInv w →
    (evs.map (·.key)).Nodup → (∀ ev ∈ evs, Ack.msgFind ev.key (w.node i).acks.msgs = none) →
    WorldPoolInv (evs.foldl (resolveStep i) w) := by
  induction evs with
  | nil => intro w h _ _; exact h
  | cons ev rest ih =>
    intro w h hnd hnone
    simp only [List.foldl_cons]
    have hs := resolveStep_inv w i ev h (hnone ev List.mem_cons_self)
    simp only [List.map_cons, List.nodup_cons, List.mem_map, not_exists, not_and] at hnd
    refine ih _ hs.1 hnd.2 ?_
    intro ev' hev'
    rw [hs.2 ev'.key (fun e => hnd.1 ev' hev' e)]
    exact hnone ev' (List.mem_cons_of_mem _ hev')



theorem sweep_inv (w : World) (i : Nat) (h : WorldPoolInv w) : WorldPoolInv (w.sweep i) := by
  rw [sweep_eq]
  have he := (h i).expire (((w.epoch : Int) + 1) * 10000)
  have h0 : WorldPoolInv ({ w with epoch := w.epoch + 1 } : World) := wpi_of_nodes rfl h
  refine resolveFold_inv i _ _ (wpi_setNode h0 i _ he.1) he.2.1 ?_
  intro ev hev
  rw [node_setNode]
  split
  · exact he.2.2 ev hev
  · rename_i hc
    have hge : w.nodes.length ≤ i := by
      have : ¬ i < w.nodes.length := fun hlt => hc ⟨rfl, hlt⟩
      omega
    have : ({ w with epoch := w.epoch + 1 } : World).node i = w.node i := rfl
    rw [this, node_oob w i hge]
    rfl

theorem appendLog_pcore (n : Node) (p : Pub) : pcore (n.appendLog p).1 = pcore n := by
  rw [appendLog_fst]
  rfl

theorem distribute_inv (w : World) (i : Nat) (p : Pub) (h : WorldPoolInv w) : WorldPoolInv (w.distribute i p).1 :=
  distribute_of (P := WorldPoolInv) (fun _ _ _ h => wpi_setNode_core h _ _ (appendLog_pcore _ _))
    (fun _ _ _ h => deliverLocal_inv _ _ _ h) h i p

theorem retainStep_inv (w : World) (i : Nat) (p : Pub) (h : WorldPoolInv w) : WorldPoolInv (retainStep w i p) := by
  unfold retainStep
  split
  · exact wpi_frame (WFrame.after (f_broadcast _ _ _) (WFrame.after (WFrame.setNode _ _ _ rfl) (AgentA.tick_frame pcore w))) h
  · exact h

theorem publishJob_inv (w : World) (i : Nat) (p : Pub) (onOk : World → World) (h : WorldPoolInv w)
    (hok : ∀ w, WorldPoolInv w → WorldPoolInv (onOk w)) : WorldPoolInv (w.publishJob i p onOk) := by
  rw [publishJob_eq]
  have h1 := distribute_inv _ i { p with retain := false } (retainStep_inv w i p h)
  split
  · exact hok _ h1
  · exact h1

theorem ackStep_inv (w : World) (i : Nat) (ev : Ack.Resolved) (h : WorldPoolInv w)
    (hk : Ack.msgFind ev.key (w.node i).acks.msgs = none) : WorldPoolInv (ackStep i w ev) := by
  unfold ackStep
  split
  · exact h
  · rename_i st hst
    cases st with
    | inbound a b c d =>
      exact publishJob_inv _ _ _ _ (wpi_setNode h i _ ((h i).eraseStored _ hk)) (fun _ hw => wpi_emit hw _ _)
    | out1 => exact (resolveOut_inv w i ev _ h hk hst).1
    | out2 => exact (resolveOut_inv w i ev _ h hk hst).1
    | rel => exact (resolveOut_inv w i ev _ h hk hst).1

theorem ackFrom_inv (w : World) (i : Nat) (pfx : String) (kind : Ack.PType) (mid : Int) (h : WorldPoolInv w) :
    WorldPoolInv (w.ackFrom i pfx kind mid) := by
  rw [ackFrom_eq]
  rcases Ack.ack_cases (w.node i).acks pfx kind true mid with ⟨h1, _, _⟩ | ⟨_, m, hm, _, heq⟩
  · rw [h1]
    exact wpi_frame (WFrame.setNode _ _ _ rfl) h
  · rw [heq]
    have ha := (h i).ackErase _ m hm
    refine ackStep_inv _ i ⟨Ack.hashKey pfx mid, false, m.stored⟩ (wpi_setNode h i _ ha.1) ?_
    rw [node_setNode]
    split
    · exact ha.2
    · rename_i hc
      rw [node_oob w i (Nat.le_of_not_lt fun hlt => hc ⟨rfl, hlt⟩)]
      rfl

theorem subStep_inv (w : World) (i : Nat) (sid : String) (tq : String × Nat) (h : WorldPoolInv w) :
    WorldPoolInv (subStep w i sid tq) := by
  have h1 := wpi_frame (f_subCreate w i sid tq.1 tq.2) h
  unfold subStep
  simp only
  split
  · split
    · exact h1
    · exact wpi_frame (f_setSess _ i _) h1
  · exact h1

theorem unsubStep_inv (w : World) (i : Nat) (sid pt : String) (h : WorldPoolInv w) :
    WorldPoolInv (unsubStep w i sid pt) := by
  have h1 := wpi_frame (f_subDelete w i sid pt) h
  unfold unsubStep
  simp only
  split
  · exact wpi_frame (f_setSess _ i _) h1
  · exact h1

theorem replayStep_inv (w : World) (i : Nat) (sid : String) (tq : String × Nat) (h : WorldPoolInv w) :
    WorldPoolInv (replayStep w i sid tq) :=
  foldl_inv WorldPoolInv _ _ _ h (fun b _ _ hb => send_inv i _ _ b hb)

theorem process_inv (w : World) (i : Nat) (sid : String) (pkt : CPkt) (h : WorldPoolInv w) :
    WorldPoolInv (w.process i sid pkt).1 := by
  refine process_of h (emit := fun _ _ _ _ h => h)
    (pub := fun _ _ _ _ _ _ onOk _ hok => publishJob_inv w i _ onOk h hok) (inb := ?_)
    (sub := fun w' tq h => subStep_inv w' i sid tq h) (replay := fun w' tq h => replayStep_inv w' i sid tq h)
    (unsub := fun w' pt h => unsubStep_inv w' i sid pt h) (ack := fun pfx kind mid => ackFrom_inv w i pfx kind mid h) pkt
  intro s topic payload qos retain dup mid _ hok
  rcases Ack.insert_cases (w.node i).acks (sid ++ "/in") .pubrec 0 mid (ackDeadline w) with ⟨_, h2⟩ | ⟨st', _, hnone, heq⟩
  · exact absurd hok h2
  · rw [heq]
    exact wpi_setNode h i _ ((h i).arm _ _ _ hnone (by intro sid mid ho; cases ho) (by intro s c p m e; cases e; rfl))

/-! ### session end, connect, drop, gossip, node failure, time: the `_rel` lemmas at `Keeps WorldPoolInv` -/

theorem k_frame {w w' : World} (hf : WFrame pcore w w') : Keeps WorldPoolInv w w' := wpi_frame hf

theorem k_tick (w : World) : Keeps WorldPoolInv w w.tick.1 := k_frame (AgentA.tick_frame pcore w)

theorem k_setDist (w : World) (i : Nat) (d : State) : Keeps WorldPoolInv w (w.setNode i { w.node i with dist := d }) :=
  k_frame (f_setDist w i d)

theorem k_broadcast (w : World) (i : Nat) (ev : Event) : Keeps WorldPoolInv w (w.broadcast i ev) :=
  k_frame (f_broadcast w i ev)

theorem k_conns (w : World) (l : List (String × Nat)) : Keeps WorldPoolInv w { w with conns := l } := wpi_of_nodes rfl

theorem k_timers (w : World) (i : Nat) (t : List (Int × Nat)) :
    Keeps WorldPoolInv w (w.setNode i { w.node i with timers := t }) :=
  k_frame (f_setTimers w i t)

theorem k_sessDelete (w : World) (i : Nat) (sid : String) : Keeps WorldPoolInv w (w.sessDelete i sid) :=
  sessDelete_rel (R := Keeps WorldPoolInv) Keeps.refl Keeps.trans k_tick k_setDist k_broadcast w i sid

theorem shutdownSession_inv (w : World) (i : Nat) (sid : String) : WorldPoolInv w → WorldPoolInv (w.shutdownSession i sid) :=
  shutdown_rel_of (R := Keeps WorldPoolInv) Keeps.refl Keeps.trans
    (unreg := fun w i _ => Keeps.trans (k_frame (f_setReg w i _)) (wpi_of_nodes (w := w.setNode i _) rfl))
    (subDelete := fun w i sid t => k_frame (f_subDelete w i sid t)) (sessDelete := k_sessDelete)
    (will := fun w i _ _ _ _ _ h => publishJob_inv w i _ _ h (fun _ h => h)) w i sid

theorem clientPacket_inv (w : World) (conn : String) (pkt : CPkt) : WorldPoolInv w → WorldPoolInv (w.clientPacket conn pkt) :=
  clientPacket_rel_of (R := Keeps WorldPoolInv) Keeps.refl Keeps.trans conn
    (process := fun w i pkt => process_inv w i _ pkt) (extendDeadline := fun w i => k_frame (f_extendDeadline w i _))
    (disc := fun w i _ _ => k_frame (f_setSess w i _)) (shutdown := fun w i => shutdownSession_inv w i _) w pkt

theorem connect_inv (w : World) (conn : String) (i : Nat) (client mount : String) (authOk : Bool) (keepalive : Nat)
    (will : Option Will) (h : WorldPoolInv w) :
    WorldPoolInv (w.connect conn i client mount authOk keepalive will) := by
  cases authOk with
  | false =>
    rw [AgentD.connect_refused]
    exact wpi_of_nodes rfl h
  | true =>
    rw [AgentD.connect_eq]
    split
    · exact k_tick _ (connPre_rel (R := Keeps WorldPoolInv) Keeps.refl Keeps.trans k_conns k_sessDelete w conn i client mount h)
    · exact wpi_emit (k_frame (f_setReg _ i _)
        (connMid_rel (R := Keeps WorldPoolInv) Keeps.refl Keeps.trans k_conns k_sessDelete k_tick k_setDist k_broadcast w conn i client mount will h)) _ _

theorem drop_inv (w : World) (conn : String) : WorldPoolInv w → WorldPoolInv (w.drop conn) :=
  drop_rel (R := Keeps WorldPoolInv) Keeps.refl Keeps.trans conn k_conns (fun _ h => h) (fun w i => shutdownSession_inv w i _) w

theorem deliverGossip_inv (w : World) (src dst : Nat) : WorldPoolInv w → WorldPoolInv (w.deliverGossip src dst) :=
  deliverGossip_rel (R := Keeps WorldPoolInv) Keeps.refl Keeps.trans (fun w i _ => k_frame (WFrame.setNode w i _ rfl)) k_setDist w src dst

theorem gossipAll_inv (w : World) : WorldPoolInv w → WorldPoolInv w.gossipAll :=
  gossipAll_rel (R := Keeps WorldPoolInv) Keeps.refl Keeps.trans deliverGossip_inv w

theorem notifyLeave_inv (w : World) (i : Nat) (peer : Nat) : WorldPoolInv w → WorldPoolInv (w.notifyLeave i peer) :=
  notifyLeave_rel_of (R := Keeps WorldPoolInv) Keeps.refl Keeps.trans
    (leavePrefix := leavePrefix_rel (R := Keeps WorldPoolInv) Keeps.refl Keeps.trans k_tick k_setDist k_broadcast)
    (appendLog := fun _ j p h => wpi_setNode_core h j _ (appendLog_pcore _ p)) (deliverLocal := deliverLocal_inv)
    (timers := k_timers) w i peer

theorem nodeFail_inv (w : World) (f : Nat) : WorldPoolInv w → WorldPoolInv (w.nodeFail f) :=
  nodeFail_rel (R := Keeps WorldPoolInv) Keeps.refl Keeps.trans (fail := fun w f => k_frame (WFrame.setNode w f _ rfl))
    (conns := k_conns) (closed := fun _ _ h => h) (notifyLeave := notifyLeave_inv) w f

theorem idle_inv (w : World) (ms : Int) : WorldPoolInv w → WorldPoolInv (w.idle ms) :=
  idle_rel (R := Keeps WorldPoolInv) Keeps.refl Keeps.trans (now := fun _ _ => wpi_of_nodes rfl) (timers := k_timers)
    (tick := k_tick) (setDist := k_setDist) (broadcast := k_broadcast) (shutdown := shutdownSession_inv) w ms

end Wasp.Broker.AgentT3
