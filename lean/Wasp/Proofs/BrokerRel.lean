import Wasp.Model.BrokerOps
import Wasp.Proofs.BrokerD
import Wasp.Proofs.BrokerA
/-!
# The functions around the publish path, for any relation between a world and its successor

How a relation `R` between a world and its successor, or an invariant `P` (as the relation `Keeps P w w' := P w → P w'`),
is carried through the broker model:

* `Moves who` (Wasp/Proofs/BrokerSteps.lean) is the closure of the elementary updates of the publish path:
  `World.process`, `World.sweep` and what they call are `Moves`, so `R` holds across them as soon as it is a preorder
  and holds across the elementary updates (`Moves.rel`).
* The functions around the publish path (the end of a session, the packet loop, CONNECT up to the registration,
  gossip, node failure, time, the connection loops of the byte-level path) are again finite compositions: of `Moves`,
  of each other, and of a few more elementary updates. The `_rel` lemmas say so one function at a time: `R` holds
  across the function if it holds across `Moves` and across the callees and updates named by the hypotheses; they ask
  for nothing the function does not use. Two weaker forms serve what looks closer: `_rel_of` has the callees in
  place of `moves` (for what does not hold across every `Moves`), the primed lemmas have the concrete write of the
  replicated state in place of arbitrary `setDist`/`broadcast` (for what looks at the state written).
* `Acts c` is the closure of what traffic on connection `c` sets off; `clientPacket`, `connect`, `failConn`,
  `applyDecoded`, `rawBytes` (with its `pump` loop) and `closeFromClientRaw` are `Acts c` (`acts_*`, by the `_rel`
  lemmas), so a relation indexed by a connection holds across all of them once it holds across each kind of step
  (`Acts.rel`). Its step `frame` allows any change outside the nodes; a relation that reads `conns`, `bufs` or the
  clocks cannot grant it and uses the `_rel` lemmas directly.
* `WireInv P C` does for an invariant what `Acts c` does for a relation, for an invariant `P` that needs a condition
  `C c` on the connection being assigned or taken off the list (the registry invariants): it lists what `P` has to
  provide, and `WireInv.*` carry `P` through the byte-level path and the connection operations of `applyOp`.
* `Reachable.ind`: what holds initially and across `applyOp` holds of every reachable world. There is no lemma with
  one hypothesis per operation of `applyOp` (it would be as long as the case analysis it replaces); `AgentT5.gi_step`
  in Wasp/Proofs/BrokerT5.lean is the pattern to follow.

The statements speak of the outer functions cut into steps. The cuts and their equations are in the files this one
imports: `tdBase`, `teardown_eq`, `shutdown_eq`, `connPre`, `connMid`, `connSess`, `connect_eq`, `connect_refused`,
`idleTimers`, `idleNode`, `idle_eq` and (in `namespace AgentT1`) `closeFin`, `closeRaw_eq`, `hsStep`, `expire_eq` in
Wasp/Proofs/BrokerD.lean; `leavePrefix`, `leaveStep`, `notifyLeave_eq` in Wasp/Proofs/BrokerA.lean; `teardown` in
Wasp/Properties/C13.lean. `SameReg` (BrokerD) and `WFrame` (BrokerA) therefore cannot use the lemmas of this file and
walk the folds and stamped writes themselves.

Inside `section Rel` every lemma takes `refl trans` first, then the section variables its group declares (`tick setDist
broadcast` for writes of the replicated state; `conns sessDelete` for CONNECT; the connection `c`; `conns closed shutdown`
for the close; `setBuf applyDecoded` for the byte loops), then its own named hypotheses.
-/
namespace Wasp.Broker
open Wasp.Dist Wasp.Broker.AgentD

theorem Reachable.ind {P : World → Prop} (init : ∀ n, P (World.init n)) (step : ∀ w op, P w → P (applyOp w op))
    {w : World} (h : Reachable w) : P w := by
  obtain ⟨n, ops, rfl⟩ := h
  exact foldl_inv P applyOp ops _ (init n) (fun b op _ hb => step b op hb)

theorem not_contains {l : List String} {x : String} : l.contains x = false ↔ x ∉ l := by
  rw [Bool.eq_false_iff, ne_eq, List.contains_iff_mem]

theorem contains_filter_ne_self (l : List String) (c : String) : (l.filter (· != c)).contains c = false :=
  not_contains.mpr fun h => by simpa using (List.mem_filter.mp h).2

theorem contains_filter_ne_of_false (l : List String) (c x : String) (h : l.contains x = false) :
    (l.filter (· != c)).contains x = false :=
  not_contains.mpr fun h2 => not_contains.mp h (List.mem_filter.mp h2).1

theorem sessDelete_subs (st : State) (now : Int) (id : String) : (Wasp.Dist.sessDelete st now id).1.subs = st.subs := by
  unfold Wasp.Dist.sessDelete
  split
  · rfl
  · split <;> rfl

theorem sessCreate_subs (st : State) (now : Int) (id client : String) (ca : Int) (lwt : Option Will) (mount : String) :
    (sessCreate st now id client ca lwt mount).1.subs = st.subs := by
  unfold sessCreate
  split
  · split <;> rfl
  · rfl

/-- the world `W`, with event `ev` queued for the peers of node i if there is one -/
def optCast (W : World) (i : Nat) : Option Event → World
  | some e => W.broadcast i e
  | none => W

theorem setNode_setNode (w : World) (i : Nat) (a b : Node) : (w.setNode i a).setNode i b = w.setNode i b := by
  simp [World.setNode]

/-- writing the replicated state of node i and queueing the broadcast is one update of the node -/
theorem distWrite_eq (w : World) (i : Nat) (hi : i < w.nodes.length) (d : State) (ev : Event) :
    (w.setNode i { w.node i with dist := d }).broadcast i ev =
      w.setNode i { w.node i with
        dist := d
        pending := (w.node i).pending ++ ((List.range w.nodes.length).filter (· != i)).map (fun j => (j, ev)) } := by
  unfold World.broadcast
  rw [node_setNode_self _ _ _ hi, setNode_setNode, setNode_length]

/-- a write of the replicated state of node i, with or without a broadcast, is one update of the node -/
theorem optCast_eq (w : World) (i : Nat) (hi : i < w.nodes.length) (d : State) (ev : Option Event) :
    ∃ P, (match ev with
      | some e => (w.setNode i { w.node i with dist := d }).broadcast i e
      | none => w.setNode i { w.node i with dist := d }) = w.setNode i { w.node i with dist := d, pending := P } := by
  cases ev with
  | none => exact ⟨_, rfl⟩
  | some e => exact ⟨_, distWrite_eq w i hi d e⟩

theorem sessDelete_eq (w : World) (i : Nat) (hi : i < w.nodes.length) (sid : String) :
    ∃ P, w.sessDelete i sid =
      w.tick.1.setNode i { w.node i with dist := (Wasp.Dist.sessDelete (w.node i).dist w.clock sid).1, pending := P } := by
  unfold World.sessDelete
  exact optCast_eq w.tick.1 i hi _ _

section Rel
-- `refl trans` are included in every lemma, needed or not, so that all are called alike
set_option linter.unusedSectionVars false
variable {R : World → World → Prop} (refl : ∀ w, R w w) (trans : ∀ {a b c}, R a b → R b c → R a c)
include refl trans

theorem foldl_rel {α : Type} {f : World → α → World} (hf : ∀ w a, R w (f w a)) (l : List α) (w : World) :
    R w (l.foldl f w) :=
  foldl_inv (R w) f l w (refl w) (fun b a _ hb => trans hb (hf b a))

/-! ### writes of the replicated state -/

section dist
variable (tick : ∀ w : World, R w w.tick.1)
  (setDist : ∀ (w : World) i d, R w (w.setNode i { w.node i with dist := d }))
  (broadcast : ∀ (w : World) i ev, R w (w.broadcast i ev))
include tick setDist broadcast

/-- the step of every function that stamps a write of the replicated state and queues it for gossip -/
theorem distWrite_rel (w : World) (i : Nat) (d : State) (ev : Event) :
    R w ((w.tick.1.setNode i { w.tick.1.node i with dist := d }).broadcast i ev) :=
  trans (trans (tick w) (setDist _ i d)) (broadcast _ i ev)

theorem sessDelete_rel (w : World) (i : Nat) (sid : String) : R w (w.sessDelete i sid) := by
  unfold World.sessDelete
  simp only []
  split
  · exact distWrite_rel refl trans tick setDist broadcast w i _ _
  · exact trans (tick w) (setDist _ _ _)

theorem leavePrefix_rel (w : World) (i : Nat) (peer : Nat) : R w (AgentA.leavePrefix w i peer) :=
  distWrite_rel refl trans tick setDist broadcast w i _ _

end dist

/-! The primed lemmas take the concrete writes of a function as hypotheses (one each; two for a gossip delivery, which
unqueues and merges), for a relation (or an invariant through `Keeps`) that looks at what is written and so cannot give
`setDist`/`broadcast` for arbitrary arguments. `optCast_rel`
splits such a hypothesis into the write and the broadcast of the event it produced, if any. -/

/-- a write `W` of `w`, queued for the peers if it produced an event -/
theorem optCast_rel {w W : World} {i : Nat} {ev : Option Event} (write : R w W)
    (cast : ∀ e, ev = some e → R W (W.broadcast i e)) : R w (optCast W i ev) := by
  cases ev with
  | none => exact write
  | some e => exact trans write (cast e rfl)

/-- `gone`: a session record is deleted under a fresh stamp and, if there was one, the deletion is queued -/
theorem sessDelete_rel'
    (gone : ∀ (w : World) i sid, R w
      (optCast (w.tick.1.setNode i { w.tick.1.node i with
          dist := (Wasp.Dist.sessDelete (w.tick.1.node i).dist w.tick.2 sid).1 }) i
        (Wasp.Dist.sessDelete (w.tick.1.node i).dist w.tick.2 sid).2))
    (w : World) (i : Nat) (sid : String) : R w (w.sessDelete i sid) := by
  unfold World.sessDelete
  simp only []
  have h := gone w i sid
  unfold optCast at h
  exact h

/-- `left`: the subscriptions of a peer that left are deleted under a fresh stamp and the deletion is queued -/
theorem leavePrefix_rel'
    (left : ∀ (w : World) i peer, R w
      ((w.tick.1.setNode i { w.tick.1.node i with dist := (subDeletePeer (w.tick.1.node i).dist w.tick.2 peer).1 }).broadcast i
        (subDeletePeer (w.tick.1.node i).dist w.tick.2 peer).2))
    (w : World) (i : Nat) (peer : Nat) : R w (AgentA.leavePrefix w i peer) := left w i peer

/-! ### the end of a session

The `_rel_of` form has what the function really calls as hypotheses (for a relation, or an invariant through `Keeps`, that
does not hold across every `Moves`); the `_rel` form takes them from `moves`. -/

/-- `unreg`: the session is unregistered, its connection closed and forgotten; `will`: a will is published -/
theorem shutdown_rel_of
    (unreg : ∀ (w : World) i (s : Sess), R w
      { (w.setNode i { w.node i with reg := (w.node i).reg.filter (fun x => x.id != s.id) }).emit s.conn .closed with
        conns := w.conns.filter (fun c => c.1 != s.conn) })
    (subDelete : ∀ w i sid t, R w (w.subDelete i sid t)) (sessDelete : ∀ w i sid, R w (w.sessDelete i sid))
    (will : ∀ (w : World) i (m t pl : String) q r,
      R w (w.publishJob i ⟨Wasp.Topic.prefixMountPoint m t, pl, q, r, false⟩ id))
    (w : World) (i : Nat) (sid : String) : R w (w.shutdownSession i sid) := by
  cases hs : (w.node i).sess sid with
  | none => rw [shutdown_none hs]; exact refl w
  | some s =>
    have hb : R w (tdBase w i s) := trans (unreg w i s) (foldl_rel refl trans (fun w t => subDelete w i s.id t) _ _)
    have ht : R w (teardown w i s).1 := by
      rw [teardown_eq]
      split
      · exact trans hb (sessDelete _ _ _)
      · exact hb
    rw [shutdown_eq w i sid s hs]
    split
    · exact ht
    · split
      · exact ht
      · split
        · exact ht
        · exact trans ht (will _ _ _ _ _ _ _)

-- between `include moves` and `omit moves`: a `_rel_of` lemma with the publish path supplied by `R` holding across `Moves`
variable (moves : ∀ {who w w'}, Moves who w w' → R w w')
include moves

theorem shutdown_rel
    (unreg : ∀ (w : World) i (s : Sess), R w
      { (w.setNode i { w.node i with reg := (w.node i).reg.filter (fun x => x.id != s.id) }).emit s.conn .closed with
        conns := w.conns.filter (fun c => c.1 != s.conn) })
    (sessDelete : ∀ w i sid, R w (w.sessDelete i sid)) (w : World) (i : Nat) (sid : String) :
    R w (w.shutdownSession i sid) :=
  shutdown_rel_of refl trans unreg (fun w i sid t => moves (Moves.subDelete (sid := sid) w i t)) sessDelete
    (fun w i _ _ _ _ _ => moves (moves_publishJob w i _ (fun w => .refl w))) w i sid

omit moves

/-! ### CONNECT up to the registration of the new session -/

section connect
variable (conns : ∀ (w : World) l, R w { w with conns := l }) (sessDelete : ∀ w i sid, R w (w.sessDelete i sid))
include conns sessDelete

theorem connPre_rel (w : World) (c : String) (i : Nat) (client mount : String) : R w (connPre w c i client mount) := by
  unfold connPre
  simp only
  split
  · exact trans (conns w _) (sessDelete _ _ _)
  · exact conns w _

/-- `create`: the record of the new session is written under a fresh stamp and, if it changed anything, queued -/
theorem connMid_rel'
    (create : ∀ (W : World) c i client will mount, R W
      (optCast (W.tick.1.setNode i { W.tick.1.node i with
          dist := (sessCreate (W.tick.1.node i).dist W.clock ("S" ++ c) client 0 will mount).1 }) i
        (sessCreate (W.tick.1.node i).dist W.clock ("S" ++ c) client 0 will mount).2.1))
    (w : World) (c : String) (i : Nat) (client mount : String) (will : Option Will) :
    R w (connMid w c i client mount will) := by
  refine trans (connPre_rel refl trans conns sessDelete w c i client mount) ?_
  have h := create (connPre w c i client mount) c i client will mount
  unfold optCast at h
  exact h

theorem connMid_rel (tick : ∀ w : World, R w w.tick.1)
    (setDist : ∀ (w : World) i d, R w (w.setNode i { w.node i with dist := d }))
    (broadcast : ∀ (w : World) i ev, R w (w.broadcast i ev))
    (w : World) (c : String) (i : Nat) (client mount : String) (will : Option Will) :
    R w (connMid w c i client mount will) := by
  exact connMid_rel' refl trans conns sessDelete
    (fun W c i client will mount => optCast_rel refl trans (trans (tick W) (setDist _ _ _)) (fun e _ => broadcast _ i e))
    w c i client mount will

end connect

/-! ### gossip, node failure, time -/

/-- `unqueue`: what `src` has pending for `dst` is taken off its list; `merged`: … and merged by `dst` (not failed) -/
theorem deliverGossip_rel'
    (unqueue : ∀ (w : World) src dst,
      R w (w.setNode src { w.node src with pending := (w.node src).pending.filter (fun e => e.1 != dst) }))
    (merged : ∀ (w : World) src dst, R w
      ((w.setNode src { w.node src with pending := (w.node src).pending.filter (fun e => e.1 != dst) }).setNode dst
        { (w.setNode src { w.node src with pending := (w.node src).pending.filter (fun e => e.1 != dst) }).node dst with
          dist := (((w.node src).pending.filter (fun e => e.1 == dst)).map (·.2)).foldl Wasp.Dist.merge
            ((w.setNode src { w.node src with pending := (w.node src).pending.filter (fun e => e.1 != dst) }).node dst).dist }))
    (w : World) (src dst : Nat) : R w (w.deliverGossip src dst) := by
  unfold World.deliverGossip
  simp only []
  split
  · exact unqueue w src dst
  · exact merged w src dst

theorem deliverGossip_rel (pending : ∀ (w : World) i p, R w (w.setNode i { w.node i with pending := p }))
    (setDist : ∀ (w : World) i d, R w (w.setNode i { w.node i with dist := d })) (w : World) (src dst : Nat) :
    R w (w.deliverGossip src dst) :=
  deliverGossip_rel' refl trans (fun w src _ => pending w src _) (fun w src dst => trans (pending w src _) (setDist _ dst _)) w src dst

theorem gossipAll_rel (deliverGossip : ∀ (w : World) src dst, R w (w.deliverGossip src dst)) (w : World) :
    R w w.gossipAll := by
  unfold World.gossipAll
  refine foldl_rel refl trans (fun w _ => ?_) _ w
  unfold World.gossipRound
  refine foldl_rel refl trans (fun b a => foldl_rel refl trans (fun b' a' => ?_) _ b) _ w
  split
  · exact deliverGossip _ _ _
  · exact refl _

/-- `timers`: the node's failure timers are rewritten -/
theorem notifyLeave_rel_of (leavePrefix : ∀ w i peer, R w (AgentA.leavePrefix w i peer))
    (appendLog : ∀ (w : World) j p, R w (w.setNode j ((w.node j).appendLog p).1))
    (deliverLocal : ∀ (w : World) j p, R w (w.deliverLocal j p))
    (timers : ∀ (w : World) i t, R w (w.setNode i { w.node i with timers := t })) (w : World) (i : Nat) (peer : Nat) :
    R w (w.notifyLeave i peer) := by
  rw [AgentA.notifyLeave_eq]
  refine trans (trans (leavePrefix w i peer) (foldl_rel refl trans (fun b a => ?_) _ _)) (timers _ _ _)
  unfold AgentA.leaveStep
  split
  · exact refl b
  · simp only []
    split
    · exact trans (appendLog _ _ _) (deliverLocal _ _ _)
    · exact appendLog _ _ _

include moves

theorem notifyLeave_rel (leavePrefix : ∀ w i peer, R w (AgentA.leavePrefix w i peer))
    (timers : ∀ (w : World) i t, R w (w.setNode i { w.node i with timers := t })) (w : World) (i : Nat) (peer : Nat) :
    R w (w.notifyLeave i peer) :=
  notifyLeave_rel_of refl trans leavePrefix (fun w j p => moves (moves_appendLog w j p))
    (fun w j p => moves (moves_deliverLocal w j p)) timers w i peer

omit moves

/-- `fail`: the node is marked as failed and loses its registry and its pending gossip -/
theorem nodeFail_rel (fail : ∀ (w : World) f, R w (w.setNode f { w.node f with failed := true, reg := [], pending := [] }))
    (conns : ∀ (w : World) l, R w { w with conns := l }) (closed : ∀ (w : World) c, R w (w.emit c .closed))
    (notifyLeave : ∀ (w : World) i peer, R w (w.notifyLeave i peer)) (w : World) (f : Nat) : R w (w.nodeFail f) := by
  unfold World.nodeFail
  simp only []
  refine trans (trans (trans (fail w f) (conns _ _)) (foldl_rel refl trans (fun b a => closed b a) _ _))
    (foldl_rel refl trans (fun b a => ?_) _ _)
  split
  · exact notifyLeave _ _ _
  · exact refl _

/-- `now`: the clock of the read deadlines moves; `peerWrite`: the sessions of a peer whose failure timer fired are
    deleted under a fresh stamp and the change is queued -/
theorem idle_rel' (now : ∀ (w : World) t, R w { w with now := t })
    (timers : ∀ (w : World) i t, R w (w.setNode i { w.node i with timers := t }))
    (peerWrite : ∀ (w : World) i peer, R w
      ((w.tick.1.setNode i { w.tick.1.node i with dist := (sessDeletePeer (w.tick.1.node i).dist w.tick.2 peer).1 }).broadcast i
        (sessDeletePeer (w.tick.1.node i).dist w.tick.2 peer).2))
    (shutdown : ∀ w i sid, R w (w.shutdownSession i sid)) (w : World) (ms : Int) : R w (w.idle ms) := by
  rw [idle_eq]
  refine trans (now w _) (foldl_rel refl trans (fun w i => ?_) _ _)
  unfold idleNode
  split
  · exact refl w
  · refine trans ?_ (foldl_rel refl trans (fun b a => ?_) _ _)
    · unfold idleTimers
      simp only []
      exact trans (timers w i _) (foldl_rel refl trans (fun b (a : Int × Nat) => peerWrite b i a.2) _ _)
    · split
      · split
        · exact shutdown _ _ _
        · exact refl _
      · exact refl _

theorem idle_rel (now : ∀ (w : World) t, R w { w with now := t })
    (timers : ∀ (w : World) i t, R w (w.setNode i { w.node i with timers := t }))
    (tick : ∀ w : World, R w w.tick.1) (setDist : ∀ (w : World) i d, R w (w.setNode i { w.node i with dist := d }))
    (broadcast : ∀ (w : World) i ev, R w (w.broadcast i ev))
    (shutdown : ∀ w i sid, R w (w.shutdownSession i sid)) (w : World) (ms : Int) : R w (w.idle ms) :=
  idle_rel' refl trans now timers (fun w i _ => distWrite_rel refl trans tick setDist broadcast w i _ _) shutdown w ms

/-! ### traffic on one connection: the packet loop, the close, the byte-level path (Wasp/Model/Wire.lean)

The hypotheses speak of the connection `c` and of its session "S" ++ c only. -/
open Wasp.Wire

section conn
variable (c : String)

/-- `disc`: the session is marked as disconnected -/
theorem clientPacket_rel_of (process : ∀ (w : World) i pkt, R w (w.process i ("S" ++ c) pkt).1)
    (extendDeadline : ∀ (w : World) i, R w (w.extendDeadline i ("S" ++ c)))
    (disc : ∀ (w : World) i s, (w.node i).sess ("S" ++ c) = some s →
      R w (w.setNode i ((w.node i).setSess { s with disconnected := true })))
    (shutdown : ∀ w i, R w (w.shutdownSession i ("S" ++ c))) (w : World) (pkt : CPkt) : R w (w.clientPacket c pkt) := by
  unfold World.clientPacket
  split
  · exact refl w
  · rename_i _ i _
    simp only []
    split
    · exact refl w
    · have hp := process w i pkt
      generalize w.process i ("S" ++ c) pkt = r at hp
      obtain ⟨w', res⟩ := r
      simp only at hp ⊢
      cases res with
      | ok => exact trans hp (extendDeadline _ _)
      | disconnected =>
        simp only []
        refine trans hp (trans ?_ (shutdown _ _))
        split
        · rename_i s' hs'
          exact disc _ i s' hs'
        · exact refl _
      | error => exact trans hp (shutdown _ _)

theorem clientPacket_rel (moves : ∀ {w w'}, Moves (some ("S" ++ c)) w w' → R w w')
    (disc : ∀ (w : World) i s, (w.node i).sess ("S" ++ c) = some s →
      R w (w.setNode i ((w.node i).setSess { s with disconnected := true })))
    (shutdown : ∀ w i, R w (w.shutdownSession i ("S" ++ c))) (w : World) (pkt : CPkt) : R w (w.clientPacket c pkt) :=
  clientPacket_rel_of refl trans c (fun w i pkt => moves (moves_process w i _ pkt))
    (fun w i => moves (.extendDeadline w i _)) disc shutdown w pkt

section close
variable (conns : ∀ (w : World) l, R w { w with conns := l }) (closed : ∀ w : World, R w (w.emit c .closed))
  (shutdown : ∀ w i, R w (w.shutdownSession i ("S" ++ c)))
include conns closed shutdown

theorem drop_rel (w : World) : R w (w.drop c) := by
  unfold World.drop
  split
  · exact refl w
  · simp only []
    split
    · exact trans (conns w _) (shutdown _ _)
    · exact trans (conns w _) (closed _)

theorem failConn_rel (w : World) : R w (failConn w c) := by
  unfold failConn
  split
  · exact refl w
  · split
    · exact shutdown _ _
    · exact trans (conns w _) (closed _)

theorem closeFin_rel (w : World) : R w (AgentT1.closeFin w c) := by
  unfold AgentT1.closeFin
  split
  · split
    · exact drop_rel refl trans c conns closed shutdown w
    · exact trans (conns w _) (closed _)
  · exact closed _

end close

/-- one decoded packet is a step of `R`, or it is the CONNECT that sets the connection up, which has no session then -/
theorem applyDecoded_elim (clientPacket : ∀ (w : World) p, R w (w.clientPacket c p)) (failConn : ∀ w, R w (failConn w c))
    {w : World} {P : World → Prop} (step : ∀ w', R w w' → P w')
    (conn : ∀ x i client mount authOk ka will, w.conns.find? (fun e => e.1 == c) = some (x, i) →
      (w.node i).sess ("S" ++ c) = none → P (w.connect c i client mount authOk ka will)) (r : DRes) :
    P (applyDecoded w c r) := by
  unfold applyDecoded
  cases hf : w.conns.find? (fun e => e.1 == c) with
  | none => exact step w (refl w)
  | some p =>
    obtain ⟨x, i⟩ := p
    simp only []
    split
    · cases r with
      | pkt p => exact step _ (clientPacket _ _)
      | connect => exact step _ (clientPacket _ _)
      | err => exact step _ (failConn _)
      | panic => exact step _ (failConn _)
    · rename_i hhs
      have hno : (w.node i).sess ("S" ++ c) = none := by
        unfold hasSession at hhs
        rw [hf] at hhs
        exact Option.not_isSome_iff_eq_none.mp hhs
      cases r with
      | connect client user pass ka will =>
        simp only []
        split
        · exact conn x i client user true ka will hf hno
        · exact conn x i client user false ka will hf hno
      | pkt p => exact step _ (failConn _)
      | err => exact step _ (failConn _)
      | panic => exact step _ (failConn _)

theorem applyDecoded_rel (clientPacket : ∀ (w : World) p, R w (w.clientPacket c p)) (failConn : ∀ w, R w (failConn w c))
    (connect : ∀ (w : World) i client mount authOk ka will, R w (w.connect c i client mount authOk ka will))
    (w : World) (r : DRes) : R w (applyDecoded w c r) :=
  applyDecoded_elim refl trans c clientPacket failConn (fun _ h => h)
    (fun _ i client mount authOk ka will _ _ => connect w i client mount authOk ka will) r

section bytes
variable (setBuf : ∀ (w : World) b, R w (setBuf w c b)) (applyDecoded : ∀ w r, R w (applyDecoded w c r))
include setBuf applyDecoded

theorem pump_rel (failConn : ∀ w, R w (failConn w c)) (fuel : Nat) : ∀ w : World, R w (pump fuel w c).1 := by
  induction fuel with
  | zero => intro w; exact refl w
  | succ fuel ih =>
    intro w
    unfold pump
    split
    · exact setBuf _ _
    · split
      · exact setBuf _ _
      · split
        · exact refl w
        · exact trans (setBuf _ _) (failConn _)
        · exact trans (trans (setBuf _ _) (applyDecoded _ _)) (ih _)

theorem rawBytes_rel (failConn : ∀ w, R w (failConn w c)) (w : World) (b : Wire.Bytes) : R w (rawBytes w c b).1 := by
  unfold rawBytes
  split
  · exact refl w
  · exact trans (setBuf _ _) (pump_rel refl trans c setBuf applyDecoded failConn _ _)

theorem closeRaw_rel (closeFin : ∀ w, R w (AgentT1.closeFin w c)) (w : World) : R w (closeFromClientRaw w c) := by
  rw [AgentT1.closeRaw_eq]
  refine trans ?_ (closeFin _)
  split
  · exact setBuf _ _
  · split
    · exact trans (setBuf _ _) (applyDecoded _ _)
    · exact setBuf _ _

end bytes

end conn

end Rel

/-! ### the closure of what traffic on one connection sets off -/

/-- the output only grew, by packets that satisfy `P` -/
def Grew (P : String × Pkt → Prop) (w w' : World) : Prop := ∃ new, w'.out = w.out ++ new ∧ ∀ e ∈ new, P e

theorem Grew.of_eq {P : String × Pkt → Prop} {w w' : World} (h : w'.out = w.out) : Grew P w w' :=
  ⟨[], by simp [h], by simp⟩

theorem Grew.refl (P : String × Pkt → Prop) (w : World) : Grew P w w := .of_eq rfl

theorem Grew.trans {P : String × Pkt → Prop} {a b c : World} (h1 : Grew P a b) (h2 : Grew P b c) : Grew P a c := by
  obtain ⟨n1, e1, p1⟩ := h1
  obtain ⟨n2, e2, p2⟩ := h2
  refine ⟨n1 ++ n2, by rw [e2, e1, List.append_assoc], ?_⟩
  intro e he
  rcases List.mem_append.mp he with h | h
  · exact p1 e h
  · exact p2 e h

theorem Grew.emit {P : String × Pkt → Prop} (w : World) (c : String) (p : Pkt) (h : P (c, p)) : Grew P w (w.emit c p) :=
  ⟨[(c, p)], rfl, by simpa using h⟩

theorem Grew.mono {P Q : String × Pkt → Prop} {w w' : World} (h : Grew P w w') (hpq : ∀ e, P e → Q e) : Grew Q w w' := by
  obtain ⟨n, e, p⟩ := h
  exact ⟨n, e, fun x hx => hpq x (p x hx)⟩

namespace AgentF

def Conf (c : String) (w w' : World) : Prop :=
  ∃ new, w'.out = w.out ++ new ∧ ∀ e ∈ new, e.2 = Pkt.closed → e.1 = c

theorem Conf.closed (c : String) {w w' : World} (h : w'.out = w.out ++ [(c, Pkt.closed)]) : Conf c w w' :=
  ⟨[(c, Pkt.closed)], h, by simp⟩

end AgentF

open AgentF

/-- `w'` arises from `w` by what traffic on connection `c` can set off: the publish path run for the connection's
    session "S" ++ c, that session marked as disconnected or ended, the steps of a CONNECT (a session record deleted,
    one written, the change queued for the peers, the session registered), and updates that leave the nodes alone,
    write `closed` to `c` at most and list `c` in `deaf` at most (byte buffers, the connection table, answers, the
    refusal of a CONNECT). -/
inductive Acts (c : String) : World → World → Prop
  | refl (w : World) : Acts c w w
  | trans {a b d : World} : Acts c a b → Acts c b d → Acts c a d
  | moves {w w' : World} : Moves (some ("S" ++ c)) w w' → Acts c w w'
  | frame {w w' : World} : w'.nodes = w.nodes → Conf c w w' → (∀ x ∈ w'.deaf, x = c ∨ x ∈ w.deaf) → Acts c w w'
  | disconnected (w : World) (i : Nat) (s : Sess) : (w.node i).sess ("S" ++ c) = some s →
      Acts c w (w.setNode i ((w.node i).setSess { s with disconnected := true }))
  | shutdown (w : World) (i : Nat) : Acts c w (w.shutdownSession i ("S" ++ c))
  | sessDelete (w : World) (i : Nat) (sid : String) : Acts c w (w.sessDelete i sid)
  | record (w : World) (i : Nat) (d : State) : d.subs = (w.node i).dist.subs →
      Acts c w (w.tick.1.setNode i { w.node i with dist := d })
  | broadcast (w : World) (i : Nat) (ev : Event) : Acts c w (w.broadcast i ev)
  | register (w : World) (i : Nat) (s : Sess) : s.id = "S" ++ c → s.conn = c →
      Acts c w (w.setNode i { w.node i with reg := (w.node i).reg ++ [s] })

theorem Acts.rel {c : String} {R : World → World → Prop} (refl : ∀ w, R w w)
    (trans : ∀ {a b d}, R a b → R b d → R a d)
    (moves : ∀ {w w'}, Moves (some ("S" ++ c)) w w' → R w w')
    (frame : ∀ {w w' : World}, w'.nodes = w.nodes → Conf c w w' → (∀ x ∈ w'.deaf, x = c ∨ x ∈ w.deaf) → R w w')
    (disconnected : ∀ (w : World) i s, (w.node i).sess ("S" ++ c) = some s →
      R w (w.setNode i ((w.node i).setSess { s with disconnected := true })))
    (shutdown : ∀ w i, R w (w.shutdownSession i ("S" ++ c)))
    (sessDelete : ∀ w i sid, R w (w.sessDelete i sid))
    (record : ∀ (w : World) i (d : State), d.subs = (w.node i).dist.subs →
      R w (w.tick.1.setNode i { w.node i with dist := d }))
    (broadcast : ∀ w i ev, R w (w.broadcast i ev))
    (register : ∀ (w : World) i (s : Sess), s.id = "S" ++ c → s.conn = c →
      R w (w.setNode i { w.node i with reg := (w.node i).reg ++ [s] }))
    {w w' : World} (h : Acts c w w') : R w w' := by
  induction h with
  | refl w => exact refl w
  | trans _ _ h1 h2 => exact trans h1 h2
  | moves h => exact moves h
  | frame hn ho hd => exact frame hn ho hd
  | disconnected w i s hs => exact disconnected w i s hs
  | shutdown w i => exact shutdown w i
  | sessDelete w i sid => exact sessDelete w i sid
  | record w i d hd => exact record w i d hd
  | broadcast w i ev => exact broadcast w i ev
  | register w i s hid hc => exact register w i s hid hc

section acts
variable (c : String)

theorem acts_conns (w : World) (l : List (String × Nat)) : Acts c w { w with conns := l } :=
  .frame rfl (Grew.of_eq rfl) (fun _ h => .inr h)

theorem acts_emit (w : World) (p : Pkt) : Acts c w (w.emit c p) :=
  .frame rfl (Grew.emit _ c _ (fun _ => rfl)) (fun _ h => .inr h)

theorem acts_setBuf (w : World) (c' : String) (b : Wire.Bytes) : Acts c w (Wire.setBuf w c' b) :=
  .frame rfl (Grew.of_eq rfl) (fun _ h => .inr h)

end acts

theorem acts_connPre (w : World) (c : String) (i : Nat) (client mount : String) : Acts c w (connPre w c i client mount) :=
  connPre_rel .refl .trans (acts_conns c) .sessDelete w c i client mount

theorem acts_connMid (w : World) (c : String) (i : Nat) (client mount : String) (will : Option Will) :
    Acts c w (connMid w c i client mount will) := by
  unfold connMid
  simp only
  refine (acts_connPre w c i client mount).trans ?_
  generalize connPre w c i client mount = W
  split
  · exact .trans (.record W i _ (sessCreate_subs _ _ _ _ _ _ _)) (.broadcast _ i _)
  · exact .record W i _ (sessCreate_subs _ _ _ _ _ _ _)

theorem acts_connect (w : World) (c : String) (i : Nat) (client mount : String) (authOk : Bool) (ka : Nat)
    (will : Option Will) : Acts c w (w.connect c i client mount authOk ka will) := by
  cases authOk with
  | false =>
    rw [connect_refused]
    refine .frame rfl (Grew.emit _ c _ (fun _ => rfl)) (fun x hx => ?_)
    exact (List.mem_append.mp hx).symm.imp List.mem_singleton.mp id
  | true =>
    rw [connect_eq]
    split
    · refine (acts_connPre w c i client mount).trans ?_
      generalize connPre w c i client mount = W
      exact .frame rfl (Conf.closed c rfl) (fun _ h => .inr h)
    · simp only
      refine (acts_connMid w c i client mount will).trans ?_
      generalize connMid w c i client mount will = W
      exact .trans (.register W i (connSess W.now c client mount ka will) rfl rfl) (acts_emit c _ _)

theorem acts_clientPacket (w : World) (c : String) (pkt : CPkt) : Acts c w (w.clientPacket c pkt) :=
  clientPacket_rel .refl .trans c .moves .disconnected .shutdown w pkt

theorem acts_failConn (w : World) (c : String) : Acts c w (Wire.failConn w c) :=
  failConn_rel .refl .trans c (acts_conns c) (acts_emit c · _) .shutdown w

theorem acts_applyDecoded (w : World) (c : String) (r : Wire.DRes) : Acts c w (Wire.applyDecoded w c r) :=
  applyDecoded_rel .refl .trans c (acts_clientPacket · c) (acts_failConn · c) (acts_connect · c) w r

theorem acts_rawBytes (w : World) (c : String) (b : Wire.Bytes) : Acts c w (Wire.rawBytes w c b).1 :=
  rawBytes_rel .refl .trans c (acts_setBuf c · c) (acts_applyDecoded · c) (acts_failConn · c) w b

theorem acts_closeFromClientRaw (w : World) (c : String) : Acts c w (Wire.closeFromClientRaw w c) :=
  closeRaw_rel .refl .trans c (acts_setBuf c · c) (acts_applyDecoded · c)
    (closeFin_rel .refl .trans c (acts_conns c) (acts_emit c · _) .shutdown) w

/-! ### the byte-level path and the connection operations, for an invariant with a condition on the connection -/

section wire
open Wasp.Wire

theorem sess_none_of_not_isSome {n : Node} {sid : String} (h : ¬ (n.sess sid).isSome = true) : n.sess sid = none := by
  cases hh : n.sess sid with
  | none => rfl
  | some _ => rw [hh] at h; exact absurd rfl h

theorem any_false_find {w : World} {c : String} (h : ¬ w.conns.any (fun e => e.1 == c) = true) :
    w.conns.find? (fun e => e.1 == c) = none := by
  rw [List.find?_eq_none]
  intro x hx hp
  exact h (List.any_eq_true.mpr ⟨x, hx, hp⟩)

theorem hasSession_of_find {w : World} {c x : String} {i : Nat} (hf : w.conns.find? (fun e => e.1 == c) = some (x, i)) :
    hasSession w c = ((w.node i).sess ("S" ++ c)).isSome := by
  unfold hasSession
  rw [hf]

/-- What the byte-level path and the connection operations of the harness ask of an invariant `P`. `C c w` is the
    condition under which connection `c` may be assigned, reassigned or taken off the list (for the registry invariant:
    no session uses it); `P` yields it for a connection that is not listed or has no session, `drop` establishes it. -/
structure WireInv (P : World → Prop) (C : String → World → Prop) : Prop where
  frame : ∀ {w w' : World}, P w → w'.nodes = w.nodes → w'.conns = w.conns → w'.clock = w.clock → P w'
  shutdown : ∀ {w : World}, P w → ∀ i sid, P (w.shutdownSession i sid)
  clientPacket : ∀ {w : World}, P w → ∀ c p, P (w.clientPacket c p)
  connect : ∀ {w : World}, P w → ∀ c i client mount authOk ka will, C c w → P (w.connect c i client mount authOk ka will)
  drop : ∀ {w : World}, P w → ∀ c, P (w.drop c) ∧ C c (w.drop c)
  idle : ∀ {w : World}, P w → ∀ ms, P (w.idle ms)
  shift : ∀ {w : World}, P w → ∀ ms : Int,
    P { w with nodes := w.nodes.map (fun n => { n with timers := n.timers.map (fun t => (t.1 + ms, t.2)) }) }
  unlisted : ∀ {w : World} {c : String}, P w → w.conns.find? (fun e => e.1 == c) = none → C c w
  noSess : ∀ {w : World} {c x : String} {i : Nat}, P w → w.conns.find? (fun e => e.1 == c) = some (x, i) →
    (w.node i).sess ("S" ++ c) = none → C c w
  congr : ∀ {w w' : World} {c : String}, C c w → w'.nodes = w.nodes → C c w'
  unlist : ∀ {w w' : World} {c : String}, P w → C c w → w'.nodes = w.nodes →
    w'.conns = w.conns.filter (fun e => e.1 != c) → w'.clock = w.clock → P w'
  assign : ∀ {w w' : World} {c : String} {i : Nat}, P w → C c w → w'.nodes = w.nodes →
    w'.conns = w.conns.filter (fun e => e.1 != c) ++ [(c, i)] → w'.clock = w.clock → P w'

section
variable {P : World → Prop} {C : String → World → Prop} (H : WireInv P C) {w : World}
include H

theorem WireInv.setBuf (h : P w) (c : String) (b : Wire.Bytes) : P (setBuf w c b) := H.frame h rfl rfl rfl

theorem WireInv.noSession {c x : String} {i : Nat} (h : P w) (hf : w.conns.find? (fun e => e.1 == c) = some (x, i))
    (hhs : ¬ hasSession w c = true) : C c w := by
  rw [hasSession_of_find hf] at hhs
  exact H.noSess h hf (sess_none_of_not_isSome hhs)

theorem WireInv.failConn (h : P w) (c : String) : P (failConn w c) := by
  unfold Wire.failConn
  cases hf : w.conns.find? (fun e => e.1 == c) with
  | none => exact h
  | some p =>
    obtain ⟨x, i⟩ := p
    simp only []
    split
    · exact H.shutdown h _ _
    · rename_i hhs
      exact H.unlist h (H.noSession h hf hhs) rfl rfl rfl

theorem WireInv.applyDecoded (h : P w) (c : String) (r : DRes) : P (applyDecoded w c r) :=
  applyDecoded_elim (R := Keeps P) Keeps.refl Keeps.trans c (fun _ p h => H.clientPacket h c p) (fun _ h => H.failConn h c)
    (P := P) (fun _ hw => hw h)
    (fun _ i client mount authOk ka will hf hno => H.connect h c i client mount authOk ka will (H.noSess h hf hno)) r

theorem WireInv.rawBytes (h : P w) (c : String) (b : Wire.Bytes) : P (rawBytes w c b).1 :=
  rawBytes_rel (R := Keeps P) Keeps.refl Keeps.trans c (fun _ b h => H.setBuf h c b) (fun _ r h => H.applyDecoded h c r)
    (fun _ h => H.failConn h c) w b h

theorem WireInv.closeFin (h : P w) (c : String) : P (AgentT1.closeFin w c) ∧ C c (AgentT1.closeFin w c) := by
  unfold AgentT1.closeFin
  split
  · split
    · exact H.drop h c
    · rename_i hhs
      have hno : C c w := by
        cases hf : w.conns.find? (fun e => e.1 == c) with
        | none => exact H.unlisted h hf
        | some p => exact H.noSession h hf hhs
      exact ⟨H.unlist h hno rfl rfl rfl, H.congr hno rfl⟩
  · rename_i hany
    exact ⟨H.frame h rfl rfl rfl, H.congr (H.unlisted h (any_false_find hany)) rfl⟩

theorem WireInv.closeRaw (h : P w) (c : String) : P (closeFromClientRaw w c) ∧ C c (closeFromClientRaw w c) := by
  rw [AgentT1.closeRaw_eq]
  apply H.closeFin
  split
  · exact H.setBuf h _ _
  · split
    · exact H.applyDecoded (H.setBuf h _ _) _ _
    · exact H.setBuf h _ _

theorem WireInv.closeFromClient (h : P w) (c : String) : P (closeFromClient w c) ∧ C c (closeFromClient w c) :=
  ⟨H.frame (H.closeRaw h c).1 rfl rfl rfl, H.congr (H.closeRaw h c).2 rfl⟩

theorem WireInv.hsStep (h : P w) (e : String × Int) : P (AgentT1.hsStep w e) := by
  unfold AgentT1.hsStep
  split
  · exact (H.closeRaw (H.frame (w' := { w with hs := w.hs.filter (fun x => x.1 != e.1) }) h rfl rfl rfl) _).1
  · exact h

theorem WireInv.wireIdle (h : P w) (ms : Int) : P (Wasp.Wire.idle w ms) := by
  unfold Wasp.Wire.idle
  rw [AgentT1.expire_eq]
  exact foldl_inv P _ _ _ (H.idle h ms) (fun b a _ hb => H.hsStep hb a)

theorem WireInv.elapse (h : P w) (ms : Int) : P (Wasp.Wire.elapse w ms) := H.wireIdle (H.shift h ms) ms

/-- `C c` holds once whatever is listed under `c` has been closed by `close` -/
theorem WireInv.closed (h : P w) (c : String) (close : World → World) (hc : P (close w) ∧ C c (close w)) :
    P (if w.conns.any (fun e => e.1 == c) then close w else w) ∧
      C c (if w.conns.any (fun e => e.1 == c) then close w else w) := by
  split
  · exact hc
  · rename_i hany
    exact ⟨h, H.unlisted h (any_false_find hany)⟩

theorem WireInv.op_connect (h : P w) (c : String) (node : Nat) (client mount : String) (authOk : Bool) (ka : Nat)
    (will : Option Will) : P (applyOp w (.connect c node client mount authOk ka will)) := by
  simp only [applyOp]
  have h1 := H.closed h c (·.drop c) (H.drop h c)
  generalize (if w.conns.any (fun e => e.1 == c) then w.drop c else w) = w1 at h1
  exact H.connect (H.frame (w' := { w1 with out := w1.out.filter (fun e => e.1 != c), deaf := w1.deaf.filter (· != c) })
    h1.1 rfl rfl rfl) _ _ _ _ _ _ _ (H.congr h1.2 rfl)

theorem WireInv.op_packet (h : P w) (c : String) (pkt : CPkt) : P (applyOp w (.packet c pkt)) := by
  simp only [applyOp]
  split
  · exact H.clientPacket h _ _
  · exact h

theorem WireInv.op_openConn (h : P w) (c : String) (node : Nat) : P (applyOp w (.openConn c node)) := by
  simp only [applyOp]
  have h1 := H.closed h c (Wire.closeFromClient · c) (H.closeFromClient h c)
  generalize (if w.conns.any (fun e => e.1 == c) then Wire.closeFromClient w c else w) = w1 at h1
  exact H.assign (H.frame (w' := { w1 with deaf := w1.deaf.filter (· != c) }) h1.1 rfl rfl rfl) (H.congr h1.2 rfl)
    rfl rfl rfl

end

end wire

end Wasp.Broker
