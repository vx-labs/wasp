import Wasp.Model.BrokerOps
import Wasp.Proofs.BrokerT12
import Wasp.Properties.C12
import Wasp.Proofs.BrokerT20
/-!
For Wasp/Properties/C05C12E2E.lean (the end-to-end statements of C05 and C12): the inbound QoS 2 handshake (`release_core`);
on reachable worlds every stored callback is filed under an in-flight key (`SLStep`, `reachable_inv13`); `Distribute` on a
single node; what a CONNECT under the client identifier of a current session leaves behind (`TakenOver`).
-/
namespace Wasp.Broker.AgentT13
open Wasp.Broker Wasp.Dist Wasp.Topic

/-! ### the inbound QoS 2 handshake: the PUBLISH -/

/-- the in-flight entry of an inbound QoS 2 handshake opened in a world of epoch `e` (acknowledged by PUBREL) -/
def msgIn (e : Nat) (mid : Int) : Ack.Msg := ⟨.pubrel, .pubrec, mid, (e : Int) * 10000 + 3000⟩

theorem process_publish2 (w : World) (i : Nat) (sid : String) (s : Sess) (hs : (w.node i).sess sid = some s)
    (topic payload : String) (retain dup : Bool) (mid : Int) (hmid : mid ≠ 0)
    (hfree : Ack.msgFind (Ack.hashKey (sid ++ "/in") mid) (w.node i).acks.msgs = none) :
    (w.process i sid (.publish topic payload 2 retain dup mid)).1 =
      (w.setNode i { w.node i with
        acks := { msgs := (w.node i).acks.msgs ++ [(Ack.hashKey (sid ++ "/in") mid, msgIn w.epoch mid)],
                  timeouts := Ack.pqInsert (Ack.hashKey (sid ++ "/in") mid) (ackDeadline w) (w.node i).acks.timeouts },
        stored := (w.node i).stored ++ [(Ack.hashKey (sid ++ "/in") mid,
          .inbound sid s.conn ⟨prefixMountPoint s.mount topic, payload, 2, retain, dup⟩ mid)] }).emit s.conn (.pubrec mid) := by
  have hins := AgentC.insert_ok (w.node i).acks (sid ++ "/in") .pubrec 0 mid (ackDeadline w) .pubrel hmid hfree rfl
  simp only [World.process, hs, hins]
  simp [msgIn, ackDeadline]

section invariants
open Wasp.Broker.AgentD Wasp.Wire

/-! ### an invariant of reachable worlds, as a relation between a world and its successor -/

/-- every stored callback is filed under a key that is in flight — or exempted (`E`) -/
def NodeSL (E : List Ack.Key) (n : Node) : Prop :=
  ∀ e ∈ n.stored, e.1 ∈ n.acks.msgs.map (·.1) ∨ e.1 ∈ E

theorem NodeSL.congr {E : List Ack.Key} {n n' : Node} (h : NodeSL E n) (ha : n'.acks = n.acks)
    (hs : n'.stored = n.stored) : NodeSL E n' := by
  unfold NodeSL; rw [ha, hs]; exact h

theorem NodeSL.mono {E E' : List Ack.Key} {n : Node} (h : NodeSL E n) (hE : ∀ k ∈ E, k ∈ E') : NodeSL E' n :=
  fun e he => (h e he).imp id (hE _)

theorem NodeSL.arm {E : List Ack.Key} {n : Node} (h : NodeSL E n) (k : Ack.Key) (m : Ack.Msg) (st : Stored)
    (t : Ack.PQ) :
    NodeSL E { n with acks := { msgs := n.acks.msgs ++ [(k, m)], timeouts := t }, stored := n.stored ++ [(k, st)] } := by
  intro e he
  simp only [List.mem_append, List.mem_singleton] at he
  simp only [List.map_append, List.mem_append, List.map_cons, List.map_nil, List.mem_singleton]
  rcases he with he | rfl
  · rcases h e he with h1 | h1
    · exact Or.inl (Or.inl h1)
    · exact Or.inr h1
  · exact Or.inl (Or.inr rfl)

theorem mem_keys_msgErase {k k' : Ack.Key} {l : List (Ack.Key × Ack.Msg)} (hne : k' ≠ k)
    (h : k' ∈ l.map (·.1)) : k' ∈ (Ack.msgErase k l).map (·.1) := by
  apply Classical.byContradiction
  intro hc
  rw [← Ack.msgFind_none_iff, Ack.msgFind_erase_ne _ hne, Ack.msgFind_none_iff] at hc
  exact hc h

/-- an in-flight entry is acknowledged: its key is exempted until its callback is taken out -/
theorem NodeSL.ackErase {E : List Ack.Key} {n : Node} (h : NodeSL E n) (k : Ack.Key) (t : Ack.PQ) :
    NodeSL (k :: E) { n with acks := { msgs := Ack.msgErase k n.acks.msgs, timeouts := t } } := by
  intro e he
  by_cases hk : e.1 = k
  · exact Or.inr (by simp [hk])
  · rcases h e he with h1 | h1
    · exact Or.inl (mem_keys_msgErase hk h1)
    · exact Or.inr (List.mem_cons_of_mem _ h1)

theorem expireKeys_keys (ks : List Ack.Key) (msgs : List (Ack.Key × Ack.Msg)) (k' : Ack.Key)
    (h : k' ∈ msgs.map (·.1)) :
    k' ∈ (Ack.expireKeys ks msgs).1.map (·.1) ∨ k' ∈ (Ack.expireKeys ks msgs).2.map (·.key) := by
  induction ks generalizing msgs with
  | nil => exact Or.inl (by simpa [Ack.expireKeys] using h)
  | cons k ks ih =>
    rw [Ack.expireKeys_cons]
    split
    · exact ih msgs h
    · simp only [List.map_cons, List.mem_cons]
      by_cases hk : k' = k
      · exact Or.inr (Or.inl hk)
      · rcases ih (Ack.msgErase k msgs) (mem_keys_msgErase hk h) with h1 | h1
        · exact Or.inl h1
        · exact Or.inr (Or.inr h1)

/-- a sweep of the in-flight table: the keys of the events are exempted -/
theorem NodeSL.expire {E : List Ack.Key} {n : Node} (h : NodeSL E n) (now : Ack.Time) :
    NodeSL ((Ack.expire n.acks now).2.map (·.key) ++ E) { n with acks := (Ack.expire n.acks now).1 } := by
  intro e he
  rw [Ack.expire_eq]
  simp only [List.mem_append]
  rcases h e he with h1 | h1
  · rcases expireKeys_keys (Ack.pqExpire now n.acks.timeouts).2 n.acks.msgs e.1 h1 with h2 | h2
    · exact Or.inl h2
    · exact Or.inr (Or.inl h2)
  · exact Or.inr (Or.inr h1)

theorem NodeSL.eraseStored {E : List Ack.Key} {n : Node} {k : Ack.Key} (h : NodeSL (k :: E) n) :
    NodeSL E { n with stored := storedErase k n.stored } := by
  intro e he
  obtain ⟨h1, h2⟩ := mem_storedErase.mp he
  rcases h e h1 with h3 | h3
  · exact Or.inl h3
  · rcases List.mem_cons.mp h3 with h4 | h4
    · exact absurd h4 h2
    · exact Or.inr h4

theorem NodeSL.noStored {E : List Ack.Key} {n : Node} {k : Ack.Key} (h : NodeSL (k :: E) n)
    (hn : storedFind k n.stored = none) : NodeSL E n := by
  have := h.eraseStored
  rwa [storedErase_of_none hn] at this

/-- carries `SL` through the model. The exempted keys `E` are there for `ackFrom` and `sweep`, which take entries out of
    the in-flight table first and the callbacks out afterwards (`sl_resolve`): hence not across `Moves.tables`. -/
def SLStep (w w' : World) : Prop := ∀ j E, NodeSL E (w.node j) → NodeSL E (w'.node j)

theorem SLStep.refl (w : World) : SLStep w w := fun _ _ h => h

theorem SLStep.trans {a b c : World} (h1 : SLStep a b) (h2 : SLStep b c) : SLStep a c := fun j E h => h2 j E (h1 j E h)

theorem sl_nodes {w w' : World} (h : w'.nodes = w.nodes) : SLStep w w' := fun j E hj => by rw [node_congr h]; exact hj

theorem SLStep.setNode (w : World) (i : Nat) (n' : Node) (h : ∀ E, NodeSL E (w.node i) → NodeSL E n') :
    SLStep w (w.setNode i n') := by
  intro j E hj
  rw [node_setNode]
  split
  · rename_i hji; rw [hji.1] at hj; exact h E hj
  · exact hj

theorem sl_setNode_same (w : World) (i : Nat) (n' : Node) (ha : n'.acks = (w.node i).acks := by rfl)
    (hs : n'.stored = (w.node i).stored := by rfl) : SLStep w (w.setNode i n') :=
  SLStep.setNode w i n' (fun _ h => h.congr ha hs)

theorem sl_foldl {α : Type} {f : World → α → World} (hs : ∀ w a, SLStep w (f w a)) (l : List α) (w : World) :
    SLStep w (l.foldl f w) := foldl_rel SLStep.refl SLStep.trans hs l w

theorem sl_emit (w : World) (c : String) (p : Pkt) : SLStep w (w.emit c p) := sl_nodes rfl

theorem sl_tick (w : World) : SLStep w w.tick.1 := sl_nodes rfl

theorem sl_setDist (w : World) (i : Nat) (d : State) : SLStep w (w.setNode i { w.node i with dist := d }) :=
  sl_setNode_same w i _

theorem sl_broadcast (w : World) (i : Nat) (ev : Event) : SLStep w (w.broadcast i ev) := sl_setNode_same w i _

theorem sl_conns (w : World) (l : List (String × Nat)) : SLStep w { w with conns := l } := sl_nodes rfl

theorem sl_extendDeadline (w : World) (i : Nat) (sid : String) : SLStep w (w.extendDeadline i sid) :=
  extendDeadline_of (P := SLStep w) (SLStep.refl w) (fun _ _ => sl_setNode_same w i _)

theorem sl_subCreate (w : World) (i : Nat) (sid pat : String) (qos : Int) : SLStep w (w.subCreate i sid pat qos) :=
  distWrite_rel SLStep.refl SLStep.trans sl_tick sl_setDist sl_broadcast w i _ _

theorem sl_subDelete (w : World) (i : Nat) (sid pat : String) : SLStep w (w.subDelete i sid pat) :=
  distWrite_rel SLStep.refl SLStep.trans sl_tick sl_setDist sl_broadcast w i _ _

theorem sl_sessDelete (w : World) (i : Nat) (sid : String) : SLStep w (w.sessDelete i sid) :=
  sessDelete_rel SLStep.refl SLStep.trans sl_tick sl_setDist sl_broadcast w i sid

theorem sl_retainStep (w : World) (i : Nat) (p : Pub) : SLStep w (retainStep w i p) := by
  unfold retainStep
  split
  · exact distWrite_rel SLStep.refl SLStep.trans sl_tick sl_setDist sl_broadcast w i _ _
  · exact SLStep.refl w

theorem sl_poolPut (w : World) (i : Nat) (mid : Int) : SLStep w (w.poolPut i mid) := sl_setNode_same w i _

/-! ### writer -/

theorem sl_arm (w : World) (i : Nat) (pfx : String) (kind : Ack.PType) (qos : Nat) (mid : Int) (d : Ack.Time)
    (st : Stored) (h : (Ack.insert (w.node i).acks pfx kind qos mid d).2 = .ok) :
    SLStep w (w.setNode i { w.node i with
      acks := (Ack.insert (w.node i).acks pfx kind qos mid d).1,
      stored := (w.node i).stored ++ [(Ack.hashKey pfx mid, st)] }) := by
  rcases Ack.insert_cases (w.node i).acks pfx kind qos mid d with ⟨_, h2⟩ | ⟨_, _, _, heq⟩
  · exact absurd h h2
  · rw [heq]
    exact SLStep.setNode w i _ (fun _ hE => hE.arm _ _ st _)

theorem sl_armAndSend (w : World) (i : Nat) (st : Stored) : SLStep w (w.armAndSend i st) :=
  armAndSend_of (P := SLStep w) (h0 := SLStep.refl w) (hd := sl_extendDeadline w i)
    (hw := fun sid _ _ _ _ _ _ _ => (sl_extendDeadline w i sid).trans (sl_emit _ _ _))
    (ha := fun sid _ _ _ _ _ _ _ h => ((sl_extendDeadline w i sid).trans (sl_arm _ i _ _ _ _ _ _ h)).trans (sl_emit _ _ _))

theorem sl_sendArmed (w : World) (i : Nat) (st : Stored) (sid : String) (mid : Int) :
    SLStep w (w.sendArmed i st sid mid) :=
  sendArmed_of (P := SLStep w) (sl_armAndSend w i st) (fun _ => (sl_armAndSend w i st).trans (sl_poolPut _ _ _))

theorem sl_send (i : Nat) (p : Pub) (l : List (String × Int)) (w : World) : SLStep w (w.send i l p) :=
  send_of (P := SLStep w) (h0 := fun _ _ _ _ h => h.trans ((sl_extendDeadline _ i _).trans (sl_emit _ _ _)))
    (h12 := fun _ _ _ _ _ _ h => h.trans ((sl_setNode_same _ i _).trans (sl_sendArmed _ i _ _ _))) l w (SLStep.refl w)

theorem sl_onResolved (w : World) (i : Nat) (ev : Ack.Resolved) (st : Stored) : SLStep w (w.onResolved i ev st) :=
  onResolved_of (P := SLStep w) (SLStep.refl w) (fun st' _ _ _ _ _ _ _ _ _ _ => sl_armAndSend w i st')
    (fun _ _ _ mid _ _ => sl_poolPut w i mid)

theorem sl_deliverLocal (w : World) (j : Nat) (p : Pub) : SLStep w (w.deliverLocal j p) :=
  sl_send j p _ w

theorem sl_appendLog (w : World) (j : Nat) (p : Pub) : SLStep w (w.setNode j ((w.node j).appendLog p).1) := by
  rw [appendLog_fst]
  exact sl_setNode_same w j _

theorem sl_distribute (w : World) (i : Nat) (p : Pub) : SLStep w (w.distribute i p).1 :=
  distribute_of (P := SLStep w) (hlog := fun _ j p h => h.trans (sl_appendLog _ j p))
    (hdl := fun _ j p h => h.trans (sl_deliverLocal _ j p))
    (SLStep.refl w) i p

/-- the publish job with a callback that is known only to carry `SLStep w` on -/
theorem sl_publishJob' (w : World) (i : Nat) (p : Pub) {onOk : World → World} (h : ∀ w', SLStep w w' → SLStep w (onOk w')) :
    SLStep w (w.publishJob i p onOk) := by
  rw [publishJob_eq]
  have h1 := (sl_retainStep w i p).trans (sl_distribute _ i { p with retain := false })
  split
  · exact h _ h1
  · exact h1

theorem sl_publishJob (w : World) (i : Nat) (p : Pub) {onOk : World → World} (h : ∀ w, SLStep w (onOk w)) :
    SLStep w (w.publishJob i p onOk) :=
  sl_publishJob' w i p (fun _ h1 => h1.trans (h _))

/-! ### resolutions -/

theorem NodeSL.eraseAny {E : List Ack.Key} {n : Node} (h : NodeSL E n) (k : Ack.Key) :
    NodeSL E { n with stored := storedErase k n.stored } :=
  (h.mono (E' := k :: E) (fun _ hk => List.mem_cons_of_mem _ hk)).eraseStored

theorem sl_eraseStored (w : World) (i : Nat) (k : Ack.Key) :
    SLStep w (w.setNode i { w.node i with stored := storedErase k (w.node i).stored }) :=
  SLStep.setNode w i _ (fun _ hE => hE.eraseAny k)

theorem nodeSL_oob (w : World) (i : Nat) (h : w.nodes.length ≤ i) (E : List Ack.Key) : NodeSL E (w.node i) := by
  rw [node_oob w i h]
  intro e he
  cases he

theorem sl_erased (w : World) (i : Nat) (k : Ack.Key) (E : List Ack.Key) (h : NodeSL (k :: E) (w.node i)) :
    NodeSL E ((w.setNode i { w.node i with stored := storedErase k (w.node i).stored }).node i) := by
  by_cases hi : i < w.nodes.length
  · rw [node_setNode_self _ _ _ hi]; exact h.eraseStored
  · exact nodeSL_oob _ i (by simpa using Nat.le_of_not_lt hi) E

theorem ackStep_rest (i : Nat) (w : World) (ev : Ack.Resolved) (st : Stored) :
    SLStep w (match st with
      | .inbound _ conn pub imid => w.publishJob i pub (fun w => w.emit conn (.pubcomp imid))
      | _ => w.onResolved i ev st) := by
  cases st with
  | inbound a conn pub imid => exact sl_publishJob _ _ _ (fun w => sl_emit _ _ _)
  | out1 | out2 | rel => exact sl_onResolved _ _ _ _

/-- `ackStep` and `resolveStep` are instances; `g` runs the callback -/
theorem sl_resolveOne {g : World → Stored → World} (hg : ∀ W st, SLStep W (g W st)) (w : World) (i : Nat) (k : Ack.Key) :
    SLStep w (match storedFind k (w.node i).stored with
      | none => w
      | some st => g (w.setNode i { w.node i with stored := storedErase k (w.node i).stored }) st) ∧
    ∀ E, NodeSL (k :: E) (w.node i) → NodeSL E ((match storedFind k (w.node i).stored with
      | none => w
      | some st => g (w.setNode i { w.node i with stored := storedErase k (w.node i).stored }) st).node i) := by
  split
  · rename_i hn; exact ⟨SLStep.refl w, fun E h => h.noStored hn⟩
  · exact ⟨(sl_eraseStored w i k).trans (hg _ _), fun E h => hg _ _ i E (sl_erased w i k E h)⟩

theorem fold_drop (f : World → Ack.Resolved → World) (i : Nat)
    (h2 : ∀ b ev, ∀ E, NodeSL (ev.key :: E) (b.node i) → NodeSL E ((f b ev).node i))
    (evs : List Ack.Resolved) : ∀ (b : World) (E : List Ack.Key),
      NodeSL (evs.map (·.key) ++ E) (b.node i) → NodeSL E ((evs.foldl f b).node i) := by
  induction evs with
  | nil => intro b E h; exact h
  | cons ev rest ih =>
    intro b E h
    exact ih _ E (h2 b ev _ h)

/-- entries leave the in-flight table of node i and their callbacks are run -/
theorem sl_resolve (w w0 : World) (i : Nat) (q : Ack.Queue) (evs : List Ack.Resolved)
    (f : World → Ack.Resolved → World) (hn : w0.nodes = w.nodes)
    (hf : ∀ b ev, SLStep b (f b ev) ∧ ∀ E, NodeSL (ev.key :: E) (b.node i) → NodeSL E ((f b ev).node i))
    (hq : ∀ E, NodeSL E (w.node i) → NodeSL (evs.map (·.key) ++ E) { w.node i with acks := q }) :
    SLStep w (evs.foldl f (w0.setNode i { w.node i with acks := q })) := by
  have hnode : ∀ j, w0.node j = w.node j := node_congr hn
  intro j E hj
  by_cases hji : j = i
  · subst hji
    apply fold_drop f j (fun b ev => (hf b ev).2)
    rw [node_setNode]
    split
    · exact hq E hj
    · rw [hnode]; exact hj.mono (fun k hk => List.mem_append_right _ hk)
  · apply sl_foldl (fun b ev => (hf b ev).1) evs _ j E
    rw [node_setNode_ne _ _ _ _ hji, hnode]
    exact hj

theorem sl_ackFrom (w : World) (i : Nat) (pfx : String) (kind : Ack.PType) (mid : Int) :
    SLStep w (w.ackFrom i pfx kind mid) := by
  rw [ackFrom_eq]
  refine sl_resolve w w i _ _ (ackStep i) rfl (fun b ev => sl_resolveOne (fun W st => ackStep_rest i W ev st) b i ev.key) ?_
  intro E hE
  rcases Ack.ack_cases (w.node i).acks pfx kind true mid with ⟨h1, _, _⟩ | ⟨_, m, _, _, heq⟩
  · rw [h1]; exact hE
  · rw [heq]
    exact hE.ackErase _ _

theorem sl_sweep (w : World) (i : Nat) : SLStep w (w.sweep i) := by
  rw [sweep_eq]
  exact sl_resolve w _ i _ _ (resolveStep i) rfl (fun b ev => sl_resolveOne (fun W st => sl_onResolved W i ev st) b i ev.key)
    (fun E hE => hE.expire _)

/-! ### packets, session end, CONNECT -/

theorem sl_subStep (w : World) (i : Nat) (sid : String) (tq : String × Nat) : SLStep w (subStep w i sid tq) := by
  refine (sl_subCreate w i sid tq.1 tq.2).trans ?_
  unfold subStep
  generalize w.subCreate i sid tq.1 tq.2 = w1
  dsimp only
  split
  · split
    · exact SLStep.refl _
    · exact sl_setNode_same _ i _
  · exact SLStep.refl _

theorem sl_unsubStep (w : World) (i : Nat) (sid pt : String) : SLStep w (unsubStep w i sid pt) := by
  refine (sl_subDelete w i sid pt).trans ?_
  unfold unsubStep
  generalize w.subDelete i sid pt = w1
  dsimp only
  split
  · exact sl_setNode_same _ i _
  · exact SLStep.refl _

theorem sl_process (w : World) (i : Nat) (sid : String) (pkt : CPkt) : SLStep w (w.process i sid pkt).1 :=
  process_of (P := SLStep w) (h := SLStep.refl w) (emit := fun _ c p _ h => h.trans (sl_emit _ c p))
    (pub := fun _ _ _ _ _ _ _ _ hok => sl_publishJob' w i _ hok) (inb := fun _ _ _ _ _ _ _ _ hok => sl_arm w i _ _ _ _ _ _ hok)
    (sub := fun w' tq h => h.trans (sl_subStep w' i sid tq))
    (replay := fun w' tq h => h.trans (sl_foldl (fun w _ => sl_send i _ _ w) _ w'))
    (unsub := fun w' pt h => h.trans (sl_unsubStep w' i sid pt)) (ack := fun pfx kind mid => sl_ackFrom w i pfx kind mid) pkt

theorem sl_shutdown (w : World) (i : Nat) (sid : String) : SLStep w (w.shutdownSession i sid) :=
  shutdown_rel_of SLStep.refl SLStep.trans (unreg := fun w i _ => (sl_setNode_same w i _).trans (sl_nodes rfl))
    (subDelete := sl_subDelete) (sessDelete := sl_sessDelete)
    (will := fun w i _ _ _ _ _ => sl_publishJob w i _ (fun w => SLStep.refl w)) w i sid

theorem sl_clientPacket (w : World) (c : String) (pkt : CPkt) : SLStep w (w.clientPacket c pkt) :=
  clientPacket_rel_of SLStep.refl SLStep.trans c (process := (sl_process · · _)) (extendDeadline := (sl_extendDeadline · · _))
    (disc := fun w i _ _ => sl_setNode_same w i _) (shutdown := (sl_shutdown · · _)) w pkt

theorem sl_connPre (w : World) (c : String) (i : Nat) (client mount : String) : SLStep w (connPre w c i client mount) :=
  connPre_rel SLStep.refl SLStep.trans sl_conns sl_sessDelete w c i client mount

theorem sl_connect (w : World) (c : String) (i : Nat) (client mount : String) (authOk : Bool)
    (keepalive : Nat) (will : Option Will) : SLStep w (w.connect c i client mount authOk keepalive will) := by
  cases authOk with
  | false => exact sl_nodes rfl
  | true =>
    rw [connect_eq]
    have h1 := (sl_connPre w c i client mount).trans (sl_tick _)
    have h2 := connMid_rel SLStep.refl SLStep.trans sl_conns sl_sessDelete sl_tick sl_setDist sl_broadcast w c i client mount will
    generalize connMid w c i client mount will = W at h2
    generalize connPre w c i client mount = w0 at h1
    split
    · exact h1.trans (sl_emit _ _ _)
    · exact (h2.trans (sl_setNode_same _ i _)).trans (sl_emit _ _ _)

theorem sl_drop (w : World) (c : String) : SLStep w (w.drop c) :=
  drop_rel SLStep.refl SLStep.trans c sl_conns (sl_emit · c _) (sl_shutdown · · _) w

/-! ### gossip, node failure, time -/

theorem sl_pending (w : World) (i : Nat) (p : List (Nat × Event)) : SLStep w (w.setNode i { w.node i with pending := p }) :=
  sl_setNode_same w i _

theorem sl_deliverGossip (w : World) (src dst : Nat) : SLStep w (w.deliverGossip src dst) :=
  deliverGossip_rel SLStep.refl SLStep.trans sl_pending sl_setDist w src dst

theorem sl_notifyLeave (w : World) (i : Nat) (peer : Nat) : SLStep w (w.notifyLeave i peer) :=
  notifyLeave_rel_of SLStep.refl SLStep.trans (leavePrefix := leavePrefix_rel SLStep.refl SLStep.trans sl_tick sl_setDist sl_broadcast)
    (appendLog := sl_appendLog) (deliverLocal := sl_deliverLocal) (timers := fun w i _ => sl_setNode_same w i _) w i peer

theorem sl_idle (w : World) (ms : Int) : SLStep w (w.idle ms) :=
  idle_rel SLStep.refl SLStep.trans (now := fun _ _ => sl_nodes rfl) (timers := fun w i _ => sl_setNode_same w i _)
    (tick := sl_tick) (setDist := sl_setDist) (broadcast := sl_broadcast) (shutdown := sl_shutdown) w ms

/-! ### every operation of the harness -/

/-- stored ⊆ in flight (the converse of `PoolInv.sub`) -/
def SL (w : World) : Prop := ∀ j, NodeSL [] (w.node j)

theorem SL.step {w w' : World} (h : SL w) (hs : SLStep w w') : SL w' := fun j => hs j [] (h j)

theorem sl_wire : WireInv SL (fun _ _ => True) where
  frame h hn _ _ := h.step (sl_nodes hn)
  shutdown h i sid := h.step (sl_shutdown _ i sid)
  clientPacket h c p := h.step (sl_clientPacket _ c p)
  connect h c i client mount authOk ka will _ := h.step (sl_connect _ c i client mount authOk ka will)
  drop h c := ⟨h.step (sl_drop _ c), trivial⟩
  idle h ms := h.step (sl_idle _ ms)
  shift h ms j := by rw [AgentT5.shift_node]; exact (h j).congr rfl rfl
  unlisted _ _ := trivial
  noSess _ _ _ := trivial
  congr _ _ := trivial
  unlist h _ hn _ _ := h.step (sl_nodes hn)
  assign h _ hn _ _ := h.step (sl_nodes hn)

theorem sl_applyOp {w : World} (h : SL w) (op : BOp) : SL (applyOp w op) := by
  cases op with
  | connect c node client mount authOk ka will => exact sl_wire.op_connect h c node client mount authOk ka will
  | packet c pkt => exact sl_wire.op_packet h c pkt
  | drop c => exact (sl_wire.closeFromClient h c).1
  | openConn c node => exact sl_wire.op_openConn h c node
  | raw c b => exact sl_wire.rawBytes h c b
  | gossipAll => exact h.step (gossipAll_rel SLStep.refl SLStep.trans sl_deliverGossip w)
  | gossip f t => exact h.step (sl_deliverGossip w f t)
  | gossipOne f t k =>
    simp only [applyOp]
    split
    · exact h
    · split
      · exact h.step (sl_pending w f _)
      · exact h.step ((sl_pending w f _).trans (sl_setDist _ t _))
  | loseGossip f t => exact h.step (sl_pending w f _)
  | sync f t => exact h.step (sl_setDist w t _)
  | unreachable n b => exact h.step (sl_setNode_same w n _)
  | logFailAll n b => exact h.step (sl_setNode_same w n _)
  | logFailAt n k => exact h.step (sl_setNode_same w n _)
  | logFailNone n => exact h.step (sl_setNode_same w n _)
  | nodeFail n =>
    exact h.step (nodeFail_rel SLStep.refl SLStep.trans (fail := fun w f => sl_setNode_same w f _) (conns := sl_conns)
      (closed := fun w c => sl_emit w c _) (notifyLeave := sl_notifyLeave) w n)
  | sweep n => exact h.step (sl_sweep w n)
  | idle ms => exact sl_wire.wireIdle h ms
  | elapse ms => exact sl_wire.elapse h ms
  | setPool n lo hi =>
    simp only [applyOp]
    split
    · exact h.step (sl_setNode_same w n _)
    · exact h
  | rpcPublish n topic payload => exact h.step (sl_distribute w n _)

/-- what the take-over needs of a reachable world -/
structure Inv13 (w : World) : Prop where
  ri : AgentT20.RI w
  sl : SL w

theorem reachable_inv13 (w : World) (h : Reachable w) : Inv13 w := by
  refine ⟨(AgentT20.j_reachable h).2, h.ind (P := SL) (fun n j e he => ?_) (fun _ op hb => sl_applyOp hb op)⟩
  have hst : ((World.init n).node j).stored = [] := by
    unfold World.node World.init
    simp only [List.getD_eq_getElem?_getD, List.getElem?_map]
    cases (List.range n)[j]? <;> rfl
  rw [hst] at he
  cases he

/-! ### consequences on reachable worlds -/

theorem reachable_stored_free (w : World) (hr : Reachable w) (i : Nat) (k : Ack.Key)
    (h : Ack.msgFind k (w.node i).acks.msgs = none) : storedFind k (w.node i).stored = none := by
  cases hf : storedFind k (w.node i).stored with
  | none => rfl
  | some st =>
    exfalso
    rcases (reachable_inv13 w hr).sl i _ (storedFind_mem hf) with h1 | h1
    · exact (Ack.msgFind_none_iff.mp h) h1
    · cases h1

/-! ### the inbound QoS 2 handshake: the PUBREL -/

theorem emit_setNode (w : World) (c : String) (pk : Pkt) (i : Nat) (n : Node) :
    (w.emit c pk).setNode i n = (w.setNode i n).emit c pk := rfl

/-- PUBLISH (QoS 2) then PUBREL of the same session, for an identifier with no open handshake: the second step is the
    publish pipeline, run in a world `W` that differs from `w` only by the PUBREC written and the timer table -/
theorem release_core (w : World) (i : Nat) (hi : i < w.nodes.length) (p : Sess) (hp : (w.node i).sess p.id = some p)
    (topic payload : String) (dup : Bool) (mid : Int) (hmid : mid ≠ 0)
    (hfree : Ack.msgFind (Ack.hashKey (p.id ++ "/in") mid) (w.node i).acks.msgs = none)
    (hsf : storedFind (Ack.hashKey (p.id ++ "/in") mid) (w.node i).stored = none) :
    ∃ T : Ack.PQ,
      ((w.process i p.id (.publish topic payload 2 false dup mid)).1.process i p.id (.pubrel mid)).1 =
        ((w.setNode i { w.node i with acks := { msgs := (w.node i).acks.msgs, timeouts := T } }).emit p.conn (.pubrec mid)).publishJob i
          ⟨prefixMountPoint p.mount topic, payload, 2, false, dup⟩ (fun x => x.emit p.conn (.pubcomp mid)) := by
  rw [process_publish2 w i p.id p hp topic payload false dup mid hmid hfree]
  generalize hn1 : ({ w.node i with
        acks := { msgs := (w.node i).acks.msgs ++ [(Ack.hashKey (p.id ++ "/in") mid, msgIn w.epoch mid)],
                  timeouts := Ack.pqInsert (Ack.hashKey (p.id ++ "/in") mid) (ackDeadline w) (w.node i).acks.timeouts },
        stored := (w.node i).stored ++ [(Ack.hashKey (p.id ++ "/in") mid,
          .inbound p.id p.conn ⟨prefixMountPoint p.mount topic, payload, 2, false, dup⟩ mid)] } : Node) = n1
  have hnode1 : ((w.setNode i n1).emit p.conn (.pubrec mid)).node i = n1 := by
    rw [node_emit, node_setNode_self _ _ _ hi]
  have hs1 : n1.sess p.id = some p := by
    rw [← hn1]; exact hp
  have hm : Ack.msgFind (Ack.hashKey (p.id ++ "/in") mid) n1.acks.msgs = some (msgIn w.epoch mid) := by
    rw [← hn1]; exact AgentT12.msgFind_snoc_self hfree
  have hack := Ack.ack_ok_eq (q := n1.acks) (pfx := p.id ++ "/in") (kind := .pubrel) (mid := mid) hm rfl
  refine ⟨(Ack.pqDelete (Ack.hashKey (p.id ++ "/in") mid) (msgIn w.epoch mid).deadline n1.acks.timeouts).1, ?_⟩
  have hlen1 : i < ((w.setNode i n1).emit p.conn (.pubrec mid)).nodes.length := by simpa using hi
  have hst : storedFind (Ack.hashKey (p.id ++ "/in") mid) n1.stored =
      some (.inbound p.id p.conn ⟨prefixMountPoint p.mount topic, payload, 2, false, dup⟩ mid) := by
    rw [← hn1]; exact AgentT12.storedFind_snoc_self hsf
  have e1 : Ack.msgErase (Ack.hashKey (p.id ++ "/in") mid) n1.acks.msgs = (w.node i).acks.msgs := by
    rw [← hn1]; exact AgentT12.msgErase_snoc_self hfree
  have e2 : storedErase (Ack.hashKey (p.id ++ "/in") mid) n1.stored = (w.node i).stored := by
    rw [← hn1]; exact storedErase_snoc_self hsf
  simp only [World.process, World.ackFrom, hnode1, hs1, hack, List.foldl_cons, List.foldl_nil]
  rw [node_setNode_self _ _ _ hlen1]
  simp only [hst, e1, e2]
  congr 1
  rw [emit_setNode, emit_setNode, setNode_setNode, setNode_setNode, ← hn1]

/-! ### one-node distribution -/

theorem send_qos0_core (i : Nat) (p : Pub) (rcpt : List (String × Int)) :
    ∀ w : World, (∀ r ∈ rcpt, r.2 = 0) → AgentA.WFrame AgentT3.pcore w (w.send i rcpt p) := by
  induction rcpt with
  | nil => intro w _; simp only [World.send]; exact AgentA.WFrame.refl _ w
  | cons r rest ih =>
    intro w hq
    obtain ⟨sid, q⟩ := r
    have hq0 : q = 0 := hq (sid, q) (by simp)
    subst hq0
    have hrest : ∀ r ∈ rest, r.2 = 0 := fun r hr => hq r (by simp [hr])
    cases hs : (w.node i).sess sid with
    | none =>
      rw [AgentT6.send_skip w i sid 0 rest p hs]
      exact ih w hrest
    | some s =>
      have hstep : w.send i ((sid, 0) :: rest) p =
          World.send ((w.extendDeadline i sid).emit s.conn
            (.publish (trimMountPoint s.mount p.topic) p.payload 0 p.retain p.dup 0)) i rest p := by
        simp [World.send, hs]
      rw [hstep]
      exact ((AgentT3.f_extendDeadline w i sid).trans (AgentA.WFrame.emit _ _ _ _)).trans (ih _ hrest)

theorem peers_const (w : World) (p : Pub)
    (hpeer : ∀ kl ∈ (w.node 0).dist.subs, ∀ u ∈ kl.2, u.peer = (w.node 0).peer) :
    ∀ x ∈ (subByPattern (w.node 0).dist p.topic).map (·.peer), x = (w.node 0).peer := by
  intro x hx
  obtain ⟨u, hu, rfl⟩ := List.mem_map.1 hx
  obtain ⟨kl, hkl, hukl⟩ := AgentT6.mem_subByPattern' hu
  exact hpeer kl hkl u hukl

theorem distribute_nobody (w : World) (i : Nat) (p : Pub) (h : subByPattern (w.node i).dist p.topic = []) :
    w.distribute i p = (w, true) := by
  unfold World.distribute
  simp [h, dedupNat]

theorem distribute_one_true (w : World) (hlen : w.nodes.length = 1) (p : Pub)
    (hpeer : ∀ kl ∈ (w.node 0).dist.subs, ∀ u ∈ kl.2, u.peer = (w.node 0).peer)
    (hlog : (w.node 0).logFailAll = false ∧ (w.node 0).logFailAt.contains (w.node 0).logCalls = false) :
    (w.distribute 0 p).2 = true := by
  by_cases hne : subByPattern (w.node 0).dist p.topic = []
  · rw [distribute_nobody w 0 p hne]
  · rw [AgentT6.distribute_one w hlen p hpeer hne hlog]

/-- one node, QoS 0 subscriptions only: the in-flight table, the stored callbacks and the pool are untouched -/
theorem distribute_one_core (w : World) (hlen : w.nodes.length = 1) (p : Pub)
    (hq0 : ∀ kl ∈ (w.node 0).dist.subs, ∀ u ∈ kl.2, u.qos = 0)
    (hpeer : ∀ kl ∈ (w.node 0).dist.subs, ∀ u ∈ kl.2, u.peer = (w.node 0).peer)
    (hlog : (w.node 0).logFailAll = false ∧ (w.node 0).logFailAt.contains (w.node 0).logCalls = false) :
    AgentA.WFrame AgentT3.pcore w (w.distribute 0 p).1 := by
  have hi : 0 < w.nodes.length := by omega
  by_cases hne : subByPattern (w.node 0).dist p.topic = []
  · rw [distribute_nobody w 0 p hne]; exact AgentA.WFrame.refl _ w
  · rw [AgentT6.distribute_one w hlen p hpeer hne hlog]
    generalize hW : w.setNode 0 { w.node 0 with logCalls := (w.node 0).logCalls + 1, log := (w.node 0).log ++ [p] } = W
    have hf : AgentA.WFrame AgentT3.pcore w W := by rw [← hW]; exact AgentA.WFrame.setNode w 0 _ rfl
    have hnW : W.node 0 = { w.node 0 with logCalls := (w.node 0).logCalls + 1, log := (w.node 0).log ++ [p] } := by
      rw [← hW, node_setNode_self _ _ _ hi]
    refine hf.trans ?_
    show AgentA.WFrame AgentT3.pcore W (W.deliverLocal 0 p)
    unfold World.deliverLocal
    apply send_qos0_core
    intro r hr
    rw [hnW] at hr
    obtain ⟨u, hu, rfl⟩ := List.mem_map.1 hr
    obtain ⟨kl, hkl, hukl⟩ := AgentT6.mem_subByPattern' (List.mem_filter.1 hu).1
    exact hq0 kl hkl u hukl

theorem distribute_one_fail (w : World) (hlen : w.nodes.length = 1) (p : Pub)
    (hpeer : ∀ kl ∈ (w.node 0).dist.subs, ∀ u ∈ kl.2, u.peer = (w.node 0).peer)
    (hne : subByPattern (w.node 0).dist p.topic ≠ [])
    (hfail : (w.node 0).logFailAll = true) :
    w.distribute 0 p = (w.setNode 0 { w.node 0 with logCalls := (w.node 0).logCalls + 1 }, false) := by
  have happ : (w.node 0).appendLog p = ({ w.node 0 with logCalls := (w.node 0).logCalls + 1 }, false) := by
    unfold Node.appendLog
    simp [hfail]
  unfold World.distribute
  simp only
  rw [AgentT6.dedupNat_const _ _ (peers_const w p hpeer)]
  have hne' : ¬ (List.map (·.peer) (subByPattern (w.node 0).dist p.topic) = []) := by simpa using hne
  rw [if_neg hne']
  simp only [List.foldl_cons, List.foldl_nil, AgentT6.nodeIndexOfPeer_single w hlen, happ]
  simp

/-! ### take-over: the session records -/
open Wasp.Crdt

theorem eq_singleton_of_nodup {α : Type} {l : List α} {a : α} (hn : l.Nodup) (ha : a ∈ l) (hall : ∀ x ∈ l, x = a) :
    l = [a] := by
  cases l with
  | nil => cases ha
  | cons x rest =>
    have hx : x = a := hall x List.mem_cons_self
    subst hx
    cases rest with
    | nil => rfl
    | cons y rest' =>
      exfalso
      have hy : y = x := hall y (by simp)
      subst hy
      simp at hn

/-- the replicated state of the accepting node after the record the client id resolved to was deleted (clock value
    `t1`) and the new session's record created (clock value `t2`): the creation succeeds and the client id resolves to
    the new record only -/
theorem takeover_records (st : State) (mount client sid : String) (will : Option Will) (mdA : SessionMD) (t1 t2 : Int)
    (hn : (st.sessions.map (·.id)).Nodup)
    (hcur : sessByClientID st mount client = [mdA])
    (hold : mdA.added ≤ t1) (ht2 : 0 < t2) (hne : sid ≠ mdA.id)
    (hrec : ∀ s, sessLookup sid st.sessions = some s → isAdded s.stamp = false) :
    (sessCreate (Wasp.Dist.sessDelete st t1 mdA.id).1 t2 sid client 0 will mount).2.2 = Err.none ∧
    sessByClientID (sessCreate (Wasp.Dist.sessDelete st t1 mdA.id).1 t2 sid client 0 will mount).1 mount client =
      [⟨sid, client, mount, st.peer, 0, will, t2, 0⟩] := by
  obtain ⟨hmem, hadded, _⟩ := AgentT19.mem_sessByClientID.mp (hcur ▸ List.mem_singleton_self mdA)
  have hlook : sessLookup mdA.id st.sessions = some mdA := (mem_iff_sessLookup st.sessions hn mdA).mp hmem
  have hnotrem : isRemoved mdA.stamp = false := by
    have h1 : isAdded ⟨mdA.added, mdA.deleted⟩ = true := hadded
    show isRemoved ⟨mdA.added, mdA.deleted⟩ = false
    simp only [isAdded_mk, Bool.and_eq_true, decide_eq_true_eq] at h1
    simp only [isRemoved_mk, Bool.and_eq_false_iff, decide_eq_false_iff_not]
    right; omega
  have hdel : (Wasp.Dist.sessDelete st t1 mdA.id).1 =
      { st with sessions := sessSet { mdA with deleted := t1 } st.sessions } := by
    unfold Wasp.Dist.sessDelete
    simp only [hlook, hnotrem]
    rfl
  rw [hdel]
  have htomb : isAdded ({ mdA with deleted := t1 } : SessionMD).stamp = false := by
    show isAdded ⟨mdA.added, t1⟩ = false
    rw [isAdded_mk]
    simp only [Bool.and_eq_false_iff, decide_eq_false_iff_not]
    right; omega
  have hn1 : ((sessSet { mdA with deleted := t1 } st.sessions).map (·.id)).Nodup := sessSet_nodup _ _ hn
  have hlook1 : sessLookup sid (sessSet { mdA with deleted := t1 } st.sessions) = sessLookup sid st.sessions := by
    rw [sessLookup_sessSet, if_neg (fun e => hne e.symm)]
  have hcreate : sessCreate { st with sessions := sessSet { mdA with deleted := t1 } st.sessions } t2 sid client 0 will mount =
      ({ st with sessions := sessSet ⟨sid, client, mount, st.peer, 0, will, t2, 0⟩ (sessSet { mdA with deleted := t1 } st.sessions) },
       some { sessions := [⟨sid, client, mount, st.peer, 0, will, t2, 0⟩] }, Err.none) := by
    unfold sessCreate
    simp only [hlook1]
    split
    · rename_i s hs
      rw [hrec s hs]
      rfl
    · rfl
  rw [hcreate]
  refine ⟨rfl, ?_⟩
  unfold sessByClientID sessFilter
  simp only
  apply eq_singleton_of_nodup
  · exact (List.Pairwise.of_map (S := (· ≠ ·)) (fun x : SessionMD => x.id) (fun _ _ hne e => hne (congrArg _ e)) (sessSet_nodup _ _ hn1)).filter _
  · refine List.mem_filter.mpr ⟨sessLookup_mem (by rw [sessLookup_sessSet, if_pos rfl]), ?_⟩
    have : isAdded (⟨sid, client, mount, st.peer, 0, will, t2, 0⟩ : SessionMD).stamp = true := by
      show isAdded ⟨t2, 0⟩ = true
      rw [isAdded_mk]
      simp only [Bool.and_eq_true, decide_eq_true_eq]
      omega
    simp [this]
  · intro x hx
    obtain ⟨hx1, hx2⟩ := List.mem_filter.mp hx
    rcases sessSet_mem hx1 with h1 | h1
    · exact h1
    · exfalso
      -- `x` is the tombstone, which the filter rejects: directly, or because it is `mdA`, replaced by the tombstone
      have hx : x = { mdA with deleted := t1 } := by
        rcases sessSet_mem h1 with h2 | h2
        · exact h2
        · have : x ∈ sessByClientID st mount client := List.mem_filter.mpr ⟨h2, hx2⟩
          rw [hcur, List.mem_singleton] at this
          exact AgentT19.mem_sessSet_id hn h1 (by rw [this])
      rw [hx, htomb] at hx2
      simp at hx2

/-! ### take-over: the world after the CONNECT -/

/-- a CONNECT (authenticated) for a client id that resolves to exactly one record `mdA`, when the creation of the new
    record succeeds: the state of the accepting node and of the connection table afterwards -/
theorem takeover_connect (w : World) (i : Nat) (hi : i < w.nodes.length) (c client mount : String) (ka : Nat)
    (will : Option Will) (mdA : SessionMD)
    (hcur : sessByClientID (w.node i).dist mount client = [mdA])
    (herr : (sessCreate (Wasp.Dist.sessDelete (w.node i).dist w.clock mdA.id).1 (w.clock + 1) ("S" ++ c) client 0 will mount).2.2
      = Err.none) :
    (∃ P, (w.connect c i client mount true ka will).node i =
      { w.node i with
        dist := (sessCreate (Wasp.Dist.sessDelete (w.node i).dist w.clock mdA.id).1 (w.clock + 1) ("S" ++ c) client 0 will mount).1,
        pending := P,
        reg := (w.node i).reg ++ [connSess w.now c client mount ka will] }) ∧
    (w.connect c i client mount true ka will).conns = w.conns.filter (fun e => e.1 != c) ++ [(c, i)] ∧
    (w.connect c i client mount true ka will).deaf = w.deaf ∧
    (w.connect c i client mount true ka will).nodes.length = w.nodes.length ∧
    (w.connect c i client mount true ka will).out = w.out ++ [(c, Pkt.connack 0)] := by
  generalize hR : sessCreate (Wasp.Dist.sessDelete (w.node i).dist w.clock mdA.id).1 (w.clock + 1) ("S" ++ c) client 0 will mount
    = R at herr ⊢
  generalize hW0 : ({ w with conns := (w.conns.filter (fun (c' : String × Nat) => c'.1 != c)) ++ [(c, i)] } : World) = W0
  have hnode0 : W0.node i = w.node i := by rw [← hW0]; rfl
  have hc0 : W0.clock = w.clock := by rw [← hW0]
  have hi0 : i < W0.tick.1.nodes.length := by rw [← hW0]; exact hi
  obtain ⟨P1, hP1⟩ := sessDelete_eq W0 i hi0 mdA.id
  have hpre : connPre w c i client mount = W0.sessDelete i mdA.id := by
    unfold connPre
    simp only
    rw [hW0, hnode0, hcur]
  rw [hP1, hnode0, hc0] at hpre
  generalize hV : W0.tick.1.setNode i _ = V at hpre
  have hVn : V.tick.1.node i =
      { w.node i with dist := (Wasp.Dist.sessDelete (w.node i).dist w.clock mdA.id).1, pending := P1 } := by
    rw [← hV]; exact node_setNode_self _ _ _ hi0
  have hVc : V.clock = w.clock + 1 := by rw [← hV]; show W0.clock + 1 = _; rw [hc0]
  have hVl : i < V.tick.1.nodes.length := by
    rw [← hV]
    show i < (W0.tick.1.setNode i _).nodes.length
    rw [setNode_length]
    exact hi0
  have hcreate : sessCreate (V.tick.1.node i).dist V.clock ("S" ++ c) client 0 will mount = R := by
    rw [hVn, hVc]; exact hR
  obtain ⟨P, hP⟩ : ∃ P, connMid w c i client mount will =
      V.tick.1.setNode i { V.tick.1.node i with dist := R.1, pending := P } := by
    unfold connMid
    simp only
    rw [hpre, hcreate]
    exact optCast_eq V.tick.1 i hVl _ _
  rw [connect_eq, hpre, hcreate, if_neg (by simp [herr])]
  simp only
  rw [hP, node_setNode_self _ _ _ hVl, setNode_setNode, hVn]
  subst hV hW0
  refine ⟨⟨P, ?_⟩, rfl, rfl, ?_, rfl⟩
  · rw [node_emit, node_setNode_self _ _ _ hVl]
    rfl
  · rw [AgentC.emit_length, setNode_length]
    exact setNode_length _ _ _

/-! ### take-over: what the CONNECT operation leaves behind -/

/-- the world `w1` after a second connection `c` took over the client id of session `a` on node i -/
structure TakenOver (w w1 : World) (i : Nat) (a : Sess) (c : String) (ka : Nat) (will : Option Will) : Prop where
  len : w1.nodes.length = w.nodes.length
  conns : w1.conns = w.conns.filter (fun e => e.1 != c) ++ [(c, i)]
  deaf : w1.deaf = w.deaf.filter (· != c)
  out : w1.out = w.out.filter (fun e => e.1 != c) ++ [(c, Pkt.connack 0)]
  reg : (w1.node i).reg = (w.node i).reg ++ [connSess w.now c a.client a.mount ka will]
  resolves : ∃ md, sessByClientID (w1.node i).dist a.mount a.client = [md] ∧ md.id = "S" ++ c
  connA : w.conns.find? (fun e => e.1 == a.conn) = some (a.conn, i)
  idA : a.id = "S" ++ a.conn
  neA : a.conn ≠ c

theorem takeover_world (w : World) (hg : GlobalInv w) (h13 : Inv13 w) (i : Nat) (hi : i < w.nodes.length)
    (a : Sess) (ha : (w.node i).sess a.id = some a)
    (mdA : SessionMD) (hcur : sessByClientID (w.node i).dist a.mount a.client = [mdA]) (hcurid : mdA.id = a.id)
    (c : String) (hc : w.conns.any (fun e => e.1 == c) = false)
    (hrec : ∀ s, sessLookup ("S" ++ c) (w.node i).dist.sessions = some s → Wasp.Crdt.isAdded s.stamp = false)
    (ka : Nat) (will : Option Will) :
    TakenOver w (applyOp w (.connect c i a.client a.mount true ka will)) i a c ka will := by
  obtain ⟨hamem, _⟩ := sess_some ha
  have hconnA := hg.regConns i a hamem
  have hidA := hg.regConn i a hamem
  have hneA : a.conn ≠ c := by
    intro e
    have : w.conns.any (fun e => e.1 == c) = true := by
      rw [List.any_eq_true]
      exact ⟨(a.conn, i), List.mem_of_find?_eq_some hconnA, by simp [e]⟩
    rw [hc] at this
    cases this
  have hne : "S" ++ c ≠ mdA.id := by
    rw [hcurid, hidA]
    intro e
    exact hneA (S_inj e).symm
  have hmem : mdA ∈ (w.node i).dist.sessions := by
    have : mdA ∈ sessByClientID (w.node i).dist a.mount a.client := by rw [hcur]; simp
    exact (List.mem_filter.mp this).1
  have hold : mdA.added ≤ w.clock := Int.le_of_lt (h13.ri.clk mdA ⟨i, Or.inl hmem⟩)
  have hpos : 0 < w.clock + 1 := by have := hg.clockPos; omega
  obtain ⟨herr, hres⟩ := takeover_records (w.node i).dist a.mount a.client ("S" ++ c) will mdA w.clock (w.clock + 1)
    (h13.ri.nodup i) hcur hold hpos hne hrec
  have happ : applyOp w (.connect c i a.client a.mount true ka will) =
      ({ w with out := w.out.filter (fun e => e.1 != c), deaf := w.deaf.filter (· != c) } : World).connect c i a.client a.mount true ka will := by
    simp only [applyOp, hc]
    rfl
  rw [happ]
  obtain ⟨⟨P, hP⟩, h2, h3, h4, h5⟩ := takeover_connect ({ w with out := w.out.filter (fun e => e.1 != c), deaf := w.deaf.filter (· != c) } : World) i hi c
    a.client a.mount ka will mdA hcur herr
  refine ⟨h4, h2, h3, h5, ?_, ⟨⟨"S" ++ c, a.client, a.mount, (w.node i).dist.peer, 0, will, w.clock + 1, 0⟩, ?_, rfl⟩,
    hconnA, hidA, hneA⟩
  · rw [hP]; rfl
  · rw [hP]; exact hres

/-! ### take-over: the keep-alive exchanges afterwards -/

theorem any_of_find {l : List (String × Nat)} {x : String} {v : String × Nat}
    (h : l.find? (fun e => e.1 == x) = some v) : l.any (fun e => e.1 == x) = true := by
  rw [List.any_eq_true]
  have h2 := List.find?_some h
  exact ⟨v, List.mem_of_find?_eq_some h, h2⟩

theorem sess_append_old (n : Node) (s0 : Sess) (sid : String) (s : Sess) (h : n.sess sid = some s) :
    Node.sess { n with reg := n.reg ++ [s0] } sid = some s := by
  unfold Node.sess at h ⊢
  simp [List.find?_append, h]

/-- the displaced session's next PINGREQ ends it: unregistered, only `closed` written, no log changed -/
theorem takeover_old_ends {w w1 : World} {i : Nat} {a : Sess} {c : String} {ka : Nat} {will : Option Will}
    (hT : TakenOver w w1 i a c ka will) (hi : i < w.nodes.length) (ha : (w.node i).sess a.id = some a)
    (hdeafA : w.deaf.contains a.conn = false) :
    ((applyOp w1 (.packet a.conn .pingreq)).node i).sess a.id = none ∧
    (applyOp w1 (.packet a.conn .pingreq)).out = w1.out ++ [(a.conn, Pkt.closed)] ∧
    ∀ j, ((applyOp w1 (.packet a.conn .pingreq)).node j).log = (w1.node j).log := by
  have hi1 : i < w1.nodes.length := by rw [hT.len]; exact hi
  have hfind : w1.conns.find? (fun e => e.1 == a.conn) = some (a.conn, i) := by
    rw [hT.conns]
    exact AgentT5.find_reassign _ _ _ _ hT.neA _ hT.connA
  have hwr : writable w1 a.conn = true := by
    unfold writable
    rw [any_of_find hfind, hT.deaf, contains_filter_ne_of_false _ _ _ hdeafA]
    rfl
  have hs1 : (w1.node i).sess a.id = some a := by
    have := sess_append_old (w.node i) (connSess w.now c a.client a.mount ka will) a.id a ha
    unfold Node.sess at this ⊢
    rw [hT.reg]
    exact this
  obtain ⟨md, hmd, hmdid⟩ := hT.resolves
  have hproc : w1.process i a.id .pingreq = (w1, .disconnected) := by
    apply C12_ping_displaced w1 i a.id a hs1
    intro md' hh
    rw [hmd] at hh
    simp only [List.head?_cons, Option.some.injEq] at hh
    subst hh
    rw [hmdid, hT.idA]
    intro e
    exact hT.neA (S_inj e).symm
  have hstep : applyOp w1 (.packet a.conn .pingreq) =
      (w1.setNode i ((w1.node i).setSess { a with disconnected := true })).shutdownSession i a.id := by
    simp only [applyOp, hwr, if_true]
    unfold World.clientPacket
    simp only [hfind, ← hT.idA, hs1, Option.isNone_some, Bool.false_eq_true, if_false, hproc]
  rw [hstep]
  generalize hW : w1.setNode i ((w1.node i).setSess { a with disconnected := true }) = W
  have hiW : i < W.nodes.length := by rw [← hW]; simpa using hi1
  have hsW : (W.node i).sess a.id = some { a with disconnected := true } := by
    rw [← hW, node_setNode_self _ _ _ hi1]
    exact AgentC.sess_setSess _ _ _ _ hs1 rfl
  have hlogW : ∀ j, (W.node j).log = (w1.node j).log := by
    intro j
    rw [← hW, node_setNode]
    split
    · rename_i hji; rw [hji.1]; rfl
    · rfl
  refine ⟨C13_unregistered_after W i a.id hiW, ?_, fun j => ?_⟩
  · rw [C13_shutdown_eq W i a.id _ hsW rfl]
    simp only [ite_self, if_true]
    rw [teardown_out]
    rw [← hW]
    rfl
  · rw [C13_clean_no_will W i a.id _ hsW rfl rfl j]
    exact hlogW j

/-- the new session's PINGREQ is answered -/
theorem takeover_new_answered {w w1 : World} {i : Nat} {a : Sess} {c : String} {ka : Nat} {will : Option Will}
    (hT : TakenOver w w1 i a c ka will) (hcs : (w.node i).sess ("S" ++ c) = none) :
    (applyOp w1 (.packet c .pingreq)).out = w1.out ++ [(c, Pkt.pingresp)] := by
  have hfind : w1.conns.find? (fun e => e.1 == c) = some (c, i) := by
    rw [hT.conns]
    exact AgentT1.find_filter_append_self _ _ _
  have hwr : writable w1 c = true := by
    unfold writable
    rw [any_of_find hfind, hT.deaf, contains_filter_ne_self]
    rfl
  have hs1 : (w1.node i).sess ("S" ++ c) = some (connSess w.now c a.client a.mount ka will) := by
    have := sess_append_new (w.node i) (connSess w.now c a.client a.mount ka will) hcs
    unfold Node.sess at this ⊢
    rw [hT.reg]
    exact this
  obtain ⟨md, hmd, hmdid⟩ := hT.resolves
  have hproc : w1.process i ("S" ++ c) .pingreq = (w1.emit c .pingresp, .ok) := by
    refine C12_ping_current w1 i ("S" ++ c) (connSess w.now c a.client a.mount ka will) hs1 md ?_ hmdid
    show (sessByClientID (w1.node i).dist a.mount a.client).head? = some md
    rw [hmd]
    rfl
  simp only [applyOp, hwr, if_true]
  unfold World.clientPacket
  simp only [hfind, hs1, Option.isNone_some, Bool.false_eq_true, if_false, hproc]
  simp

end invariants

end Wasp.Broker.AgentT13
