import Wasp.Model.BrokerOps
import Wasp.Proofs.BrokerT7
import Wasp.Proofs.BrokerT6
/-! For Wasp/Properties/C17E2E.lean: the invariant `TI` of a world of one node (described below), kept by every operation
of the harness (`ti_step`), and `SubSessInv` as its consequence. -/

namespace Wasp.Broker
open Wasp.Dist Wasp.Topic Wasp.Crdt

/-- live subscriptions of registered sessions are stored under a filter inside the session's mount point -/
def SubSessInv (w : World) : Prop :=
  ∀ i, (w.node i).failed = false → ∀ kl ∈ (w.node i).dist.subs, ∀ u ∈ kl.2, isAdded u.stamp = true → u.peer = (w.node i).peer →
    ∀ r, (w.node i).sess u.session = some r → ∃ f, kl.1 = prefixMountPoint r.mount f

end Wasp.Broker

namespace Wasp.Broker.AgentT8
open Wasp.Broker Wasp.Dist Wasp.Topic Wasp.Crdt Wasp.Wire Wasp.Broker.AgentD Wasp.Broker.AgentT5

variable {ex : String → String → Prop}

/-! ### the invariant of a one-node world

Node 0 (the only node): nothing is pending; while the node has not failed, every LIVE stored subscription belongs to a
registered session and its key is one of that session's `topics` (up to the exceptions `ex session key`, used in the
middle of SUBSCRIBE and of the session teardown); every element of a registered session's `topics` lies inside the
session's mount point. -/

/-- the subscription `u` stored under key `k`: if live, its session is registered and remembers `k` -/
def QLx (ex : String → String → Prop) (n : Node) (k : String) (u : Sub) : Prop :=
  isAdded u.stamp = true → (∃ r, n.sess u.session = some r ∧ k ∈ r.topics) ∨ ex u.session k

structure TNx (ex : String → String → Prop) (n : Node) : Prop where
  pend : n.pending = []
  live : n.failed = false → ∀ kl ∈ n.dist.subs, ∀ u ∈ kl.2, QLx ex n kl.1 u
  tops : ∀ r ∈ n.reg, ∀ t ∈ r.topics, ∃ f, t = prefixMountPoint r.mount f

structure Tx (ex : String → String → Prop) (w : World) : Prop where
  len : w.nodes.length = 1
  node : TNx ex (w.node 0)

def noEx : String → String → Prop := fun _ _ => False

abbrev T (w : World) : Prop := Tx noEx w

/-- registry invariant (`RInv`, Wasp/Proofs/BrokerT5.lean) and the one-node invariant together -/
structure TI (w : World) : Prop where
  r : RInv w
  t : T w

/-! ### generic -/

theorem default_pending : ({ peer := 0, dist := { peer := 0 }, pool := initPool } : Node).pending = [] := rfl

theorem pend_nil {w : World} (h : Tx ex w) (k : Nat) : (w.node k).pending = [] := by
  by_cases hk : k = 0
  · subst hk; exact h.node.pend
  · rw [node_oob w k (by rw [h.len]; omega)]

theorem subs_oob {w : World} (h : Tx ex w) (k : Nat) (hk : k ≠ 0) :
    (w.node k).dist.subs = [] := by
  rw [node_oob w k (by rw [h.len]; omega)]

theorem idx_zero {w : World} (h : Tx ex w) {i : Nat} {sid : String} {s : Sess}
    (hs : (w.node i).sess sid = some s) : i = 0 := by
  by_cases hi : i = 0
  · exact hi
  · exfalso
    have hmem := (sess_some hs).1
    rw [reg_oob w i (by rw [h.len]; omega)] at hmem
    cases hmem

theorem tx_mono {ex ex' : String → String → Prop} {w : World} (h : Tx ex w) (hsub : ∀ a k, ex a k → ex' a k) : Tx ex' w := by
  refine ⟨h.len, h.node.pend, fun hf kl hkl u hu hadd => ?_, h.node.tops⟩
  rcases h.node.live hf kl hkl u hu hadd with hh | hh
  · exact Or.inl hh
  · exact Or.inr (hsub _ _ hh)

theorem tx_frame {w w' : World} (h : Tx ex w) (hn : w'.nodes = w.nodes) : Tx ex w' :=
  ⟨by rw [hn]; exact h.len, by rw [node_congr hn]; exact h.node⟩

theorem tx_emit {w : World} (h : Tx ex w) (c : String) (p : Pkt) : Tx ex (w.emit c p) :=
  tx_frame h rfl

theorem tx_tick {w : World} (h : Tx ex w) : Tx ex w.tick.1 := tx_frame h rfl

theorem tx_setNode {w : World} (h : Tx ex w) (i : Nat) (n' : Node) (hn : i = 0 → TNx ex n') :
    Tx ex (w.setNode i n') := by
  refine ⟨by rw [setNode_length]; exact h.len, ?_⟩
  rw [node_setNode]
  split
  · rename_i hc
    exact hn hc.1.symm
  · exact h.node

theorem tx_setNode_same {w : World} (h : Tx ex w) (i : Nat) (n' : Node)
    (hr : n'.reg = (w.node i).reg := by rfl) (hd : n'.dist.subs = (w.node i).dist.subs := by rfl)
    (hf : n'.failed = (w.node i).failed := by rfl) (hp : n'.pending = (w.node i).pending := by rfl) :
    Tx ex (w.setNode i n') := by
  refine tx_setNode h i n' (fun hi => ?_)
  subst hi
  have hn := h.node
  refine ⟨by rw [hp]; exact hn.pend, ?_, by rw [hr]; exact hn.tops⟩
  intro hf' kl hkl u hu hadd
  rw [hd] at hkl
  rw [hf] at hf'
  have := hn.live hf' kl hkl u hu hadd
  unfold Node.sess at this ⊢
  rw [hr]
  exact this

theorem tx_broadcast {w : World} (h : Tx ex w) (i : Nat) (ev : Event) :
    Tx ex (w.broadcast i ev) := by
  unfold World.broadcast
  refine tx_setNode h i _ (fun hi => ?_)
  subst hi
  have hn := h.node
  refine ⟨?_, hn.live, hn.tops⟩
  show (w.node 0).pending ++ _ = _
  rw [h.len, hn.pend]
  have : (List.filter (fun x => x != 0) (List.range 1)) = [] := by decide
  rw [this]
  rfl

theorem tx_setDist {w : World} (h : Tx ex w) (i : Nat) (d : State)
    (hd : i = 0 → (w.node 0).failed = false → (∀ kl ∈ (w.node 0).dist.subs, ∀ u ∈ kl.2, QLx ex (w.node 0) kl.1 u) →
      ∀ kl ∈ d.subs, ∀ u ∈ kl.2, QLx ex (w.node 0) kl.1 u) :
    Tx ex (w.setNode i { w.node i with dist := d }) := by
  refine tx_setNode h i _ (fun hi => ?_)
  subst hi
  exact ⟨h.node.pend, fun hf => hd rfl hf (h.node.live hf), h.node.tops⟩

theorem tx_setDist_same {w : World} (h : Tx ex w) (i : Nat) (d : State)
    (hs : d.subs = (w.node i).dist.subs) : Tx ex (w.setNode i { w.node i with dist := d }) :=
  tx_setDist h i d (fun hi _ hl => by subst hi; rw [hs]; exact hl)

theorem tx_distWrite {w : World} (h : Tx ex w) (i : Nat) (d : State) (ev : Event)
    (hd : i = 0 → (w.node 0).failed = false → (∀ kl ∈ (w.node 0).dist.subs, ∀ u ∈ kl.2, QLx ex (w.node 0) kl.1 u) →
      ∀ kl ∈ d.subs, ∀ u ∈ kl.2, QLx ex (w.node 0) kl.1 u) :
    Tx ex ((w.tick.1.setNode i { w.tick.1.node i with dist := d }).broadcast i ev) :=
  tx_broadcast (tx_setDist (tx_tick h) i d hd) i ev

theorem tx_distWrite_same {w : World} (h : Tx ex w) (i : Nat) (d : State) (ev : Event)
    (hs : d.subs = (w.node i).dist.subs) :
    Tx ex ((w.tick.1.setNode i { w.tick.1.node i with dist := d }).broadcast i ev) :=
  tx_broadcast (tx_setDist_same (tx_tick h) i d hs) i ev

theorem tx_recordWrite {w : World} (h : Tx ex w) (i : Nat) (d : State) (ev : Option Event)
    (hs : d.subs = (w.node i).dist.subs) : Tx ex (optCast (w.tick.1.setNode i { w.tick.1.node i with dist := d }) i ev) :=
  optCast_rel (R := Keeps (Tx ex)) Keeps.refl Keeps.trans (fun h => tx_setDist_same (tx_tick h) i d hs)
    (fun e _ h2 => tx_broadcast h2 i e) h

/-! ### sessions -/

/-- the session found under `sid` is replaced by one with the same id and mount point whose new `topics` lie inside the
    mount point and still contain the key of every live subscription of the session -/
theorem tx_setSess {w : World} (h : Tx ex w) (i : Nat) (sid : String) (s s2 : Sess)
    (hs : (w.node i).sess sid = some s) (hid : s2.id = s.id) (hm : s2.mount = s.mount)
    (htop : ∀ t ∈ s2.topics, t ∈ s.topics ∨ ∃ f, t = prefixMountPoint s.mount f)
    (hkeep : (w.node i).failed = false → ∀ kl ∈ (w.node i).dist.subs, ∀ u ∈ kl.2, isAdded u.stamp = true → u.session = sid →
      kl.1 ∈ s.topics → kl.1 ∈ s2.topics) :
    Tx ex (w.setNode i ((w.node i).setSess s2)) := by
  refine tx_setNode h i _ (fun hi => ?_)
  subst hi
  have hn := h.node
  obtain ⟨hmem, hsid⟩ := sess_some hs
  refine ⟨hn.pend, ?_, ?_⟩
  · intro hf kl hkl u hu hadd
    have hf' : (w.node 0).failed = false := hf
    rcases hn.live hf' kl hkl u hu hadd with ⟨r, hr, hk⟩ | hh
    · left
      refine ⟨_, sess_setSess_fwd _ s2 _ r hr, ?_⟩
      split
      · rename_i hc
        have e1 : r.id = s2.id := beq_iff_eq.mp hc
        have e2 : u.session = sid := by rw [← (sess_some hr).2, e1, hid, hsid]
        have e3 : r = s := by
          rw [e2, hs] at hr
          exact (Option.some.inj hr).symm
        subst e3
        exact hkeep hf' kl hkl u hu hadd e2 hk
      · exact hk
    · exact Or.inr hh
  · intro x hx t ht
    rcases mem_setSess hx with e | hx
    · subst e
      rw [hm]
      rcases htop t ht with h1 | h1
      · exact hn.tops s hmem t h1
      · exact h1
    · exact hn.tops x hx t ht

theorem tx_setSess_same {w : World} (h : Tx ex w) (i : Nat) (sid : String) (s s2 : Sess)
    (hs : (w.node i).sess sid = some s) (hid : s2.id = s.id := by rfl) (hm : s2.mount = s.mount := by rfl)
    (ht : s2.topics = s.topics := by rfl) : Tx ex (w.setNode i ((w.node i).setSess s2)) :=
  tx_setSess h i sid s s2 hs hid hm (fun t h1 => Or.inl (by rw [← ht]; exact h1))
    (fun _ _ _ _ _ _ _ hk => by rw [ht]; exact hk)

/-! ### writer, publish pipeline -/

theorem tx_extendDeadline {w : World} (h : Tx ex w) (i : Nat) (sid : String) :
    Tx ex (w.extendDeadline i sid) :=
  extendDeadline_of (P := Tx ex) h (fun s hs => tx_setSess_same h i sid s _ hs)

theorem tx_sessDelete {w : World} (h : Tx ex w) (i : Nat) (sid : String) :
    Tx ex (w.sessDelete i sid) := by
  unfold World.sessDelete
  exact tx_recordWrite h i _ _ (sessDelete_subs _ _ _)

theorem tx_retainStep {w : World} (h : Tx ex w) (i : Nat) (p : Pub) :
    Tx ex (retainStep w i p) := by
  unfold retainStep
  split
  · exact tx_distWrite_same h i _ _ (topic_step (w.node i).dist w.clock p).1
  · exact h

/-- `Moves none` has none of the updates across which `Tx ex` fails (`subCreate`, `subDelete`, `topics`) -/
theorem Tx.of_moves {w w' : World} (h : Moves none w w') (hw : Tx ex w) : Tx ex w' :=
  Moves.rel (who := none) (R := Keeps (Tx ex)) Keeps.refl Keeps.trans
    (emit := fun _ c p _ h => tx_emit h c p)
    (epoch := fun _ h => tx_frame h rfl)
    (extendDeadline := fun _ i x h => tx_extendDeadline h i x)
    (subCreate := fun _ e => nomatch e)
    (subDelete := fun _ e => nomatch e)
    (retain := fun _ i p h => tx_retainStep h i p)
    (topics := fun _ e => nomatch e)
    (tables := fun _ i _ _ _ _ _ h => tx_setNode_same h i _) h hw

/-! ### subscriptions -/

theorem tx_discharge {ex ex' : String → String → Prop} {w : World} (h : Tx ex' w)
    (hd : (w.node 0).failed = false → ∀ kl ∈ (w.node 0).dist.subs, ∀ u ∈ kl.2, isAdded u.stamp = true → ex' u.session kl.1 →
      (∃ r, (w.node 0).sess u.session = some r ∧ kl.1 ∈ r.topics) ∨ ex u.session kl.1) : Tx ex w := by
  refine ⟨h.len, h.node.pend, fun hf kl hkl u hu hadd => ?_, h.node.tops⟩
  rcases h.node.live hf kl hkl u hu hadd with hh | hh
  · exact Or.inl hh
  · exact hd hf kl hkl u hu hadd hh

theorem tx_subCreate {w : World} (h : Tx ex w) (i : Nat) (sid pat : String) (qos : Int) :
    Tx (fun a k => ex a k ∨ (a = sid ∧ k = pat)) (w.subCreate i sid pat qos) := by
  have h' : Tx (fun a k => ex a k ∨ (a = sid ∧ k = pat)) w := tx_mono h (fun a k hh => Or.inl hh)
  refine tx_distWrite h' i (Wasp.Dist.subCreate (w.node i).dist w.clock sid pat qos).1
    (Wasp.Dist.subCreate (w.node i).dist w.clock sid pat qos).2 (fun hi _ hl => ?_)
  subst hi
  exact subsSet_forall (fun k u => QLx _ (w.node 0) k u) _ _ hl (fun _ => Or.inr (Or.inr ⟨rfl, rfl⟩))

theorem tx_subDelete {w : World} (h : Tx ex w) (i : Nat) (sid pat : String) :
    Tx ex (w.subDelete i sid pat) := by
  refine tx_distWrite h i (Wasp.Dist.subDelete (w.node i).dist w.clock sid pat).1
    (Wasp.Dist.subDelete (w.node i).dist w.clock sid pat).2 (fun hi _ hl => ?_)
  subst hi
  refine subsSet_forall (fun k u => QLx _ (w.node 0) k u) _ _ hl (fun hadd => ?_)
  have := tomb_not_added sid pat (w.node 0).dist.peer w.clock
  unfold tomb at this
  rw [this] at hadd
  cases hadd

theorem sinv_of_ninv {c : Int} {n : Node} (h : NInv c n) : SInv c n.dist.subs :=
  ⟨h.subsWF.1, fun kl hkl => (h.subsWF.2 kl hkl).1, fun kl hkl => (h.subsWF.2 kl hkl).2,
    fun kl hkl u hu _ => h.subsClock kl hkl u hu⟩

/-- the second part (the session stays registered under its mount point) is what the next filter needs -/
theorem t_subStep {w : World} (h : T w) (i : Nat) (sid : String) (s : Sess) (hs : (w.node i).sess sid = some s)
    (tq : String × Nat) (hpat : ∃ f, tq.1 = prefixMountPoint s.mount f) :
    T (subStep w i sid tq) ∧ ∃ s2, ((subStep w i sid tq).node i).sess sid = some s2 ∧ s2.mount = s.mount := by
  have hi := idx_zero h hs
  subst hi
  have hlt : 0 < w.nodes.length := by rw [h.len]; omega
  obtain ⟨hreg, _, _, hlen⟩ := AgentT6.subCreate_frame w 0 hlt sid tq.1 tq.2
  have hb1 := tx_subCreate h 0 sid tq.1 tq.2
  have hs1 : ((w.subCreate 0 sid tq.1 tq.2).node 0).sess sid = some s := by
    unfold Node.sess at hs ⊢
    rw [hreg]; exact hs
  unfold subStep
  simp only [hs1]
  split
  · rename_i hc
    refine ⟨tx_discharge hb1 (fun _ kl _ u _ _ hex => ?_), s, hs1, rfl⟩
    rcases hex with hex | ⟨e1, e2⟩
    · exact absurd hex (fun hh => hh)
    · left
      rw [e1, e2]
      exact ⟨s, hs1, by simpa using hc⟩
  · have hlt1 : 0 < (w.subCreate 0 sid tq.1 tq.2).nodes.length := by rw [hlen]; exact hlt
    have hb2 := tx_setSess hb1 0 sid s { s with topics := s.topics ++ [tq.1] } hs1 rfl rfl
      (fun t ht => by
        rcases List.mem_append.mp ht with ht | ht
        · exact Or.inl ht
        · right
          rw [List.mem_singleton.mp ht]
          exact hpat)
      (fun _ _ _ _ _ _ _ hk => List.mem_append_left _ hk)
    have hs2 : (((w.subCreate 0 sid tq.1 tq.2).setNode 0
        (((w.subCreate 0 sid tq.1 tq.2).node 0).setSess { s with topics := s.topics ++ [tq.1] })).node 0).sess sid =
          some { s with topics := s.topics ++ [tq.1] } := by
      rw [node_setNode_self _ _ _ hlt1, sess_setSess_fwd _ _ _ s hs1]
      simp
    refine ⟨tx_discharge hb2 (fun _ kl _ u _ _ hex => ?_), _, hs2, rfl⟩
    rcases hex with hex | ⟨e1, e2⟩
    · exact absurd hex (fun hh => hh)
    · left
      rw [e1, e2]
      exact ⟨_, hs2, by simp⟩

/-- `unsubStep` keeps `TI`: after the tombstone no live subscription of the session is left under the filter it forgets -/
theorem ti_unsubStep {w : World} (h : TI w) (i : Nat) (sid pt : String) : TI (unsubStep w i sid pt) := by
  have hr1 := rinv_subDelete h.r i sid pt
  have ht1 := tx_subDelete h.t i sid pt
  unfold unsubStep
  simp only
  split
  · rename_i s' hs'
    refine ⟨rinv_setSess hr1 i sid s' _ hs' rfl rfl, ?_⟩
    have hi := idx_zero ht1 hs'
    subst hi
    have hlt : 0 < w.nodes.length := by rw [h.t.len]; omega
    have hgone : Gone sid pt ((w.subDelete 0 sid pt).node 0).dist.subs := by
      rw [subDelete_node_subs w 0 hlt]
      exact gone_after_subDelete (sinv_of_ninv (h.r.node 0)) (Int.le_refl _) sid pt _
    refine tx_setSess ht1 0 sid s' _ hs' rfl rfl (fun t ht => Or.inl (List.mem_filter.mp ht).1) ?_
    intro _ kl hkl u hu hadd hus hk
    refine List.mem_filter.mpr ⟨hk, ?_⟩
    simp only [bne_iff_ne, ne_eq]
    intro e
    exact hgone kl hkl u hu hadd ⟨hus, by rw [((hr1.node 0).subsWF.2 kl hkl).2 u hu, e]⟩
  · exact ⟨hr1, ht1⟩

/-! ### packets -/

theorem ti_publishJob {w : World} (h : TI w) (i : Nat) (p : Pub) (onOk : World → World)
    (hok : ∀ w, TI w → TI (onOk w)) : TI (w.publishJob i p onOk) := by
  rw [publishJob_eq]
  have h1 : TI ((retainStep w i p).distribute i { p with retain := false }).1 :=
    ⟨.of_moves (moves_publishCore w i p) h.r, .of_moves (moves_publishCore w i p) h.t⟩
  split
  · exact hok _ h1
  · exact h1

theorem ti_process {w : World} (h : TI w) (i : Nat) (sid : String) (pkt : CPkt) : TI (w.process i sid pkt).1 := by
  refine ⟨.of_moves (moves_process w i sid pkt) h.r, ?_⟩
  cases hs : (w.node i).sess sid with
  | none => rw [process_none hs]; exact h.t
  | some s =>
    cases pkt with
    | connect => rw [process_connect hs]; exact h.t
    | publish topic payload qos retain dup mid =>
      rw [process_publish hs]
      -- `(a, r).1` is reduced to `a` first: left to the unifier, it unfolds `publishJob` instead
      split
      · dsimp only
        exact .of_moves (moves_publishJob w i _ (fun w => .refl w)) h.t
      · split
        · dsimp only
          exact .of_moves (moves_publishJob w i _ (fun w => .emit w _ _ Pkt.noConfusion)) h.t
        · split
          · split
            · exact tx_emit (tx_setNode_same h.t i _) _ _
            · exact h.t
          · exact h.t
    | subscribe mid topics =>
      rw [process_subscribe hs]
      refine foldl_inv T _ _ _ (tx_emit ?_ _ _)
        (fun b a _ hb => .of_moves (moves_replayStep b i sid a) hb)
      -- along the filters the session stays registered under its mount point
      refine (foldl_inv (fun b : World => T b ∧ ∃ s2, (b.node i).sess sid = some s2 ∧ s2.mount = s.mount)
        _ _ w ⟨h.t, s, hs, rfl⟩ ?_).1
      intro b a ha ⟨hbT, s2, hs2, hm2⟩
      obtain ⟨x, _, rfl⟩ := List.mem_map.mp ha
      obtain ⟨hT, s3, h3, hm3⟩ := t_subStep hbT i sid s2 hs2 (prefixMountPoint s.mount x.1, x.2) ⟨x.1, by rw [hm2]⟩
      exact ⟨hT, s3, h3, hm3.trans hm2⟩
    | unsubscribe mid topics =>
      rw [process_unsubscribe hs]
      exact tx_emit (foldl_inv TI _ _ w h (fun b a _ hb => ti_unsubStep hb i sid _)).t _ _
    | puback mid => rw [process_puback hs]; exact .of_moves (moves_ackFrom w i _ _ mid) h.t
    | pubrec mid => rw [process_pubrec hs]; exact .of_moves (moves_ackFrom w i _ _ mid) h.t
    | pubrel mid => rw [process_pubrel hs]; exact .of_moves (moves_ackFrom w i _ _ mid) h.t
    | pubcomp mid => rw [process_pubcomp hs]; exact .of_moves (moves_ackFrom w i _ _ mid) h.t
    | pingreq =>
      rw [process_pingreq hs]
      split
      · exact tx_emit h.t _ _
      · exact h.t
    | disconnect => rw [process_disconnect hs]; exact h.t
    | other => rw [process_other hs]; exact h.t

/-! ### session end -/

theorem sess_unreg_ne (n : Node) (sid x : String) (hne : x ≠ sid) :
    Node.sess { n with reg := n.reg.filter (fun y => y.id != sid) } x = n.sess x := by
  unfold Node.sess
  simp only
  rw [List.find?_filter]
  congr 1
  funext y
  by_cases hyx : y.id = x
  · subst hyx
    simp [hne]
  · simp [hyx]

theorem fold_subDelete_patkey (i : Nat) (sid : String) (topics : List String) (w : World) (hi : i < w.nodes.length)
    (h : ∀ kl ∈ (w.node i).dist.subs, ∀ u ∈ kl.2, u.pattern = kl.1) :
    ∀ kl ∈ ((topics.foldl (fun w t => w.subDelete i sid t) w).node i).dist.subs, ∀ u ∈ kl.2, u.pattern = kl.1 := by
  induction topics generalizing w with
  | nil => exact h
  | cons t rest ih =>
    simp only [List.foldl_cons]
    apply ih _ (by simpa using hi)
    rw [subDelete_node_subs w i hi]
    exact subsSet_forall (fun k x => x.pattern = k) _ _ h rfl

theorem t_tdBase {w : World} (i : Nat) (s : Sess) (hn : NInv w.clock (w.node i)) (h : T w)
    (hs : (w.node i).sess s.id = some s) : T (tdBase w i s) := by
  have hi := idx_zero h hs
  subst hi
  have hlt : 0 < w.nodes.length := by rw [h.len]; omega
  -- the session is unregistered: its live subscriptions are the exceptions
  have h0 : Tx (fun a k => a = s.id ∧ k ∈ s.topics)
      (w.setNode 0 { w.node 0 with reg := (w.node 0).reg.filter (fun x => x.id != s.id) }) := by
    refine tx_setNode (tx_mono h (fun _ _ hh => absurd hh (fun x => x))) 0 _ (fun _ => ?_)
    refine ⟨h.node.pend, ?_, fun r hr => h.node.tops r (List.mem_filter.mp hr).1⟩
    intro hf kl hkl u hu hadd
    rcases h.node.live hf kl hkl u hu hadd with ⟨r, hr, hk⟩ | hh
    · by_cases hus : u.session = s.id
      · right
        rw [hus, hs] at hr
        cases hr
        exact ⟨hus, hk⟩
      · left
        exact ⟨r, by rw [sess_unreg_ne _ _ _ hus]; exact hr, hk⟩
    · exact absurd hh (fun x => x)
  have h1 : Tx (fun a k => a = s.id ∧ k ∈ s.topics) (tdBase w 0 s) := by
    unfold tdBase
    simp only
    exact foldl_inv (Tx _) _ _ _ (tx_frame h0 rfl) (fun b a _ hb => tx_subDelete hb 0 s.id a)
  refine tx_discharge h1 (fun _ kl hkl u hu hadd hex => ?_)
  exfalso
  have hpk : u.pattern = kl.1 := by
    have := fold_subDelete_patkey 0 s.id s.topics
      ({ (w.setNode 0 { w.node 0 with reg := (w.node 0).reg.filter (fun x => x.id != s.id) }).emit s.conn .closed with
          conns := ((w.setNode 0 { w.node 0 with reg := (w.node 0).reg.filter (fun x => x.id != s.id) }).emit s.conn .closed).conns.filter
            (fun (c : String × Nat) => c.1 != s.conn) } : World)
      (by show 0 < (w.setNode 0 _).nodes.length; simpa using hlt)
      (by
        show ∀ kl ∈ ((w.setNode 0 _).node 0).dist.subs, _
        rw [node_setNode_self _ _ _ hlt]
        exact fun kl hkl => (hn.subsWF.2 kl hkl).2)
    exact this kl hkl u hu
  exact tdBase_gone w 0 hlt s (sinv_of_ninv hn) kl.1 hex.2 kl hkl u hu hadd ⟨hex.1, hpk⟩

theorem t_teardown {w : World} (i : Nat) (s : Sess) (hn : NInv w.clock (w.node i)) (h : T w)
    (hs : (w.node i).sess s.id = some s) : T (teardown w i s).1 := by
  rw [teardown_eq]
  have hb := t_tdBase i s hn h hs
  split
  · exact tx_sessDelete hb _ _
  · exact hb

theorem t_shutdown {w : World} (i : Nat) (sid : String) (hn : NInv w.clock (w.node i)) (h : T w) :
    T (w.shutdownSession i sid) := by
  cases hs : (w.node i).sess sid with
  | none => rw [shutdown_none hs]; exact h
  | some s =>
    rw [shutdown_eq w i sid s hs]
    have hs' : (w.node i).sess s.id = some s := by rw [(sess_some hs).2]; exact hs
    have ht := t_teardown i s hn h hs'
    split
    · exact ht
    · split
      · exact ht
      · split
        · exact ht
        · exact .of_moves (moves_publishJob _ i _ (fun w => .refl w)) ht

theorem ti_shutdown {w : World} (h : TI w) (i : Nat) (sid : String) : TI (w.shutdownSession i sid) :=
  ⟨rinv_shutdown h.r i sid, t_shutdown i sid (h.r.node i) h.t⟩

theorem ti_clientPacket {w : World} (h : TI w) (conn : String) (pkt : CPkt) : TI (w.clientPacket conn pkt) :=
  clientPacket_rel_of (R := Keeps TI) Keeps.refl Keeps.trans conn
    (process := fun _ i pkt h => ti_process h i _ pkt)
    (extendDeadline := fun _ i h => ⟨rinv_extendDeadline h.r i _, tx_extendDeadline h.t i _⟩)
    (disc := fun _ i s hs h => ⟨rinv_setSess h.r i _ s _ hs rfl rfl, tx_setSess_same h.t i _ s _ hs⟩)
    (shutdown := fun _ i h => ti_shutdown h i _) w pkt h

/-! ### CONNECT, the client closes -/

theorem t_connPre {w : World} (h : T w) (c : String) (i : Nat) (client mount : String) : T (connPre w c i client mount) :=
  connPre_rel (R := Keeps T) Keeps.refl Keeps.trans (fun _ _ h => tx_frame h rfl) (fun _ i sid h => tx_sessDelete h i sid)
    w c i client mount h

theorem t_connMid {w : World} (h : T w) (c : String) (i : Nat) (client mount : String) (will : Option Will) :
    T (connMid w c i client mount will) :=
  connMid_rel' (R := Keeps T) Keeps.refl Keeps.trans (fun _ _ h => tx_frame h rfl) (fun _ i sid h => tx_sessDelete h i sid)
    (fun _ _ i _ _ _ h => tx_recordWrite h i _ _ (sessCreate_subs _ _ _ _ _ _ _)) w c i client mount will h

theorem sess_append_keep (n : Node) (s0 : Sess) (x : String) (r : Sess) (h : n.sess x = some r) :
    Node.sess { n with reg := n.reg ++ [s0] } x = some r := by
  unfold Node.sess at h ⊢
  simp only [List.find?_append, h]
  rfl

theorem t_connect {w : World} (h : T w) (c : String) (i : Nat) (client mount : String) (authOk : Bool)
    (keepalive : Nat) (will : Option Will) : T (w.connect c i client mount authOk keepalive will) := by
  cases authOk with
  | false =>
    rw [connect_refused]
    exact tx_frame h rfl
  | true =>
    rw [connect_eq]
    split
    · exact tx_emit (tx_tick (t_connPre h c i client mount)) _ _
    · simp only
      apply tx_emit
      have hM := t_connMid h c i client mount will
      generalize connMid w c i client mount will = W at hM
      refine tx_setNode hM i _ (fun hi => ?_)
      subst hi
      refine ⟨hM.node.pend, ?_, ?_⟩
      · intro hf kl hkl u hu hadd
        rcases hM.node.live hf kl hkl u hu hadd with ⟨r, hr, hk⟩ | hh
        · exact Or.inl ⟨r, sess_append_keep _ _ _ r hr, hk⟩
        · exact Or.inr hh
      · intro x hx t ht
        simp only [List.mem_append, List.mem_singleton] at hx
        rcases hx with hx | rfl
        · exact hM.node.tops x hx t ht
        · cases ht

theorem ti_connect {w : World} (h : TI w) (c : String) (i : Nat) (client mount : String) (authOk : Bool)
    (keepalive : Nat) (will : Option Will) (hno : NoConn c w) : TI (w.connect c i client mount authOk keepalive will) :=
  ⟨rinv_connect h.r c i client mount authOk keepalive will hno, t_connect h.t c i client mount authOk keepalive will⟩

theorem ti_drop {w : World} (h : TI w) (c : String) : TI (w.drop c) ∧ NoConn c (w.drop c) := by
  refine ⟨⟨(rinv_drop h.r c).1, ?_⟩, (rinv_drop h.r c).2⟩
  unfold World.drop
  split
  · exact h.t
  · rename_i x i hf
    simp only []
    have h0 : T ({ w with conns := w.conns.filter (fun e => e.1 != c) } : World) := tx_frame h.t rfl
    split
    · exact t_shutdown i _ (h.r.node i) h0
    · exact tx_emit h0 _ _

/-! ### gossip, node failure, time -/

theorem t_deliverGossip {w : World} (h : T w) (src dst : Nat) : T (w.deliverGossip src dst) := by
  unfold World.deliverGossip
  simp only [pend_nil h src, List.filter_nil, List.map_nil, List.foldl_nil]
  have h1 : T (w.setNode src { w.node src with pending := [] }) :=
    tx_setNode_same h src _ rfl rfl rfl (pend_nil h src).symm
  split
  · exact h1
  · exact tx_setNode_same h1 dst _

theorem ti_deliverGossip {w : World} (h : TI w) (src dst : Nat) : TI (w.deliverGossip src dst) :=
  ⟨rinv_deliverGossip h.r src dst, t_deliverGossip h.t src dst⟩

theorem t_leavePrefix {w : World} (h : T w) (i : Nat) (peer : Nat) (hwf : SubsWF (w.node i).dist.subs) :
    T (AgentA.leavePrefix w i peer) := by
  unfold AgentA.leavePrefix
  refine tx_distWrite h i (subDeletePeer (w.node i).dist w.clock peer).1 (subDeletePeer (w.node i).dist w.clock peer).2
    (fun hi _ hl => ?_)
  subst hi
  unfold subDeletePeer subBulkDelete
  simp only
  refine foldl_subsSet_forall (fun k u => QLx _ (w.node 0) k u) _ _ hl ?_
  intro v hv
  simp only [List.mem_map, subFilter, List.mem_flatMap, List.mem_filter] at hv
  obtain ⟨x, ⟨kl, hkl, hx, hxa⟩, rfl⟩ := hv
  simp only [Bool.and_eq_true] at hxa
  intro _
  have := hl kl hkl x hx hxa.1
  rw [← (hwf.2 kl hkl).2 x hx] at this
  exact this

theorem t_leaveStep {w : World} (h : T w) (i : Nat) (s : SessionMD) : T (AgentA.leaveStep i w s) := by
  unfold AgentA.leaveStep
  split
  · exact h
  · simp only []
    split
    · exact .of_moves ((moves_appendLog _ _ _).trans (moves_deliverLocal _ _ _)) h
    · exact .of_moves (moves_appendLog _ _ _) h

theorem t_notifyLeave {w : World} (h : T w) (i : Nat) (peer : Nat) (hwf : SubsWF (w.node i).dist.subs) :
    T (w.notifyLeave i peer) := by
  rw [AgentA.notifyLeave_eq]
  simp only
  refine tx_setNode_same ?_ i _
  exact foldl_inv T _ _ _ (t_leavePrefix h i peer hwf) (fun b a _ hb => t_leaveStep hb i a)

theorem nodeFail_loop (W0 : World) (hT : T W0) (hW : ∀ j, SubsWF (W0.node j).dist.subs) (f p : Nat) :
    T ((List.range W0.nodes.length).foldl (fun w i => if i ≠ f ∧ !(w.node i).failed then w.notifyLeave i p else w) W0) := by
  rw [hT.len]
  show T ([0].foldl _ W0)
  simp only [List.foldl_cons, List.foldl_nil]
  split
  · exact t_notifyLeave hT 0 _ (hW 0)
  · exact hT

theorem t_nodeFail {w : World} (hr : RInv w) (h : T w) (f : Nat) : T (w.nodeFail f) := by
  unfold World.nodeFail
  simp only []
  have h1 : T (w.setNode f { w.node f with failed := true, reg := [], pending := [] }) := by
    refine tx_setNode h f _ (fun _ => ⟨rfl, fun hf => (by cases hf), fun r hr => (by cases hr)⟩)
  have hwf1 : ∀ j, SubsWF ((w.setNode f { w.node f with failed := true, reg := [], pending := [] }).node j).dist.subs := by
    intro j
    rw [node_setNode]
    split
    · exact (hr.node f).subsWF
    · exact (hr.node j).subsWF
  refine nodeFail_loop _ ?_ ?_ f _
  · exact foldl_inv T _ _ _ (tx_frame h1 rfl) (fun b a _ hb => tx_emit hb _ _)
  · exact foldl_inv (fun b : World => ∀ j, SubsWF (b.node j).dist.subs) _ _ _ hwf1 (fun b a _ hb => hb)

theorem ti_nodeFail {w : World} (h : TI w) (f : Nat) : TI (w.nodeFail f) := ⟨rinv_nodeFail h.r f, t_nodeFail h.r h.t f⟩

theorem ti_frame {w w' : World} (h : TI w) (hn : w'.nodes = w.nodes) (hc : w'.conns = w.conns) (hk : w'.clock = w.clock) :
    TI w' :=
  ⟨rinv_frame h.r hn hc (by rw [hk]; exact Int.le_refl _), tx_frame h.t hn⟩

theorem ti_idle {w : World} (h : TI w) (ms : Int) : TI (w.idle ms) :=
  idle_rel' (R := Keeps TI) Keeps.refl Keeps.trans
    (now := fun _ _ h => ti_frame h rfl rfl rfl)
    (timers := fun _ i _ h => ⟨rinv_setNode_same h.r i _, tx_setNode_same h.t i _⟩)
    (peerWrite := fun _ i _ h =>
      ⟨rinv_distWrite h.r i _ _ (SubsStep.of_eq rfl) (old_nil _), tx_distWrite_same h.t i _ _ rfl⟩)
    (shutdown := fun _ i sid h => ti_shutdown h i sid) w ms h

/-! ### the byte-level path (Wasp/Model/Wire.lean) -/

theorem ti_wire : WireInv TI NoConn where
  frame := ti_frame
  shutdown := ti_shutdown
  clientPacket := ti_clientPacket
  connect h c i client mount authOk ka will hno := ti_connect h c i client mount authOk ka will hno
  drop := ti_drop
  idle := ti_idle
  shift h ms := ⟨rinv_shift h.r ms, by simp only [List.length_map]; exact h.t.len, by
    rw [shift_node]
    exact ⟨h.t.node.pend, h.t.node.live, h.t.node.tops⟩⟩
  unlisted h hf := noConn_of_find_none h.r hf
  noSess h hf hno := noConn_of_noSess h.r hf hno
  congr := noConn_congr
  unlist h hno hn hc hk := ⟨rinv_filterConns h.r _ hno hn hc hk, tx_frame h.t hn⟩
  assign h hno hn hc hk := ⟨rinv_reassign h.r _ _ hno hn hc hk, tx_frame h.t hn⟩

theorem ti_init : TI (World.init 1) := by
  refine ⟨(gi_init 1).2, ⟨rfl, ?_⟩⟩
  have hnode : (World.init 1).node 0 = { peer := 1, dist := { peer := 1 }, pool := initPool } := rfl
  rw [hnode]
  exact ⟨rfl, fun _ kl hkl => (by cases hkl), fun r hr => (by cases hr)⟩

theorem ti_op_gossipOne {w : World} (h : TI w) (f t k : Nat) : TI (applyOp w (.gossipOne f t k)) := by
  simp only [applyOp, pend_nil h.t f, List.filter_nil, List.getElem?_nil]
  exact h

theorem ti_op_loseGossip {w : World} (h : TI w) (f t : Nat) : TI (applyOp w (.loseGossip f t)) := by
  simp only [applyOp]
  exact ⟨rinv_setPending h.r f _ (fun e he => (List.mem_filter.mp he).1),
    tx_setNode_same h.t f _ rfl rfl rfl (by rw [pend_nil h.t f]; rfl)⟩

theorem ti_op_sync {w : World} (h : TI w) (f t : Nat) : TI (applyOp w (.sync f t)) := by
  simp only [applyOp]
  constructor
  · refine rinv_setDist h.r t _ (merge_step _ _ _ ?_)
    intro u hu
    simp only [snapshot, List.mem_flatMap] at hu
    obtain ⟨kl, hkl, hukl⟩ := hu
    exact (h.r.node f).subsClock kl hkl u hukl
  · refine tx_setDist h.t t _ (fun ht _ hl => ?_)
    subst ht
    show ∀ kl ∈ mergeSubs (snapshot (w.node f).dist).subs (w.node 0).dist.subs, _
    refine mergeSubs_forall (fun k u => QLx _ (w.node 0) k u) _ _ hl ?_
    intro v hv
    simp only [snapshot, List.mem_flatMap] at hv
    obtain ⟨kl, hkl, hv⟩ := hv
    by_cases hf0 : f = 0
    · subst hf0
      have := hl kl hkl v hv
      rw [← ((h.r.node 0).subsWF.2 kl hkl).2 v hv] at this
      exact this
    · rw [subs_oob h.t f hf0] at hkl
      cases hkl

theorem ti_setFlags {w : World} (h : TI w) (i : Nat) (n' : Node)
    (hr : n'.reg = (w.node i).reg := by rfl) (hs : n'.dist.subs = (w.node i).dist.subs := by rfl)
    (hf : n'.failed = (w.node i).failed := by rfl) (hp : n'.pending = (w.node i).pending := by rfl) : TI (w.setNode i n') :=
  ⟨rinv_setNode_same h.r i n' hr hs hp, tx_setNode_same h.t i n' hr hs hf hp⟩

theorem ti_op_setPool {w : World} (h : TI w) (n : Nat) (lo hi : Int) : TI (applyOp w (.setPool n lo hi)) := by
  simp only [applyOp]
  split
  · exact ti_setFlags h n _
  · exact h

theorem ti_step {w : World} (h : TI w) (op : BOp) : TI (applyOp w op) := by
  cases op with
  | connect c node client mount authOk ka will => exact ti_wire.op_connect h c node client mount authOk ka will
  | packet c pkt => exact ti_wire.op_packet h c pkt
  | drop c => exact (ti_wire.closeFromClient h c).1
  | openConn c node => exact ti_wire.op_openConn h c node
  | raw c b => exact ti_wire.rawBytes h c b
  | gossipAll => exact gossipAll_rel (R := Keeps TI) Keeps.refl Keeps.trans (fun _ a b h => ti_deliverGossip h a b) w h
  | gossip f t => exact ti_deliverGossip h f t
  | gossipOne f t k => exact ti_op_gossipOne h f t k
  | loseGossip f t => exact ti_op_loseGossip h f t
  | sync f t => exact ti_op_sync h f t
  | unreachable n b => exact ti_setFlags h n _
  | logFailAll n b => exact ti_setFlags h n _
  | logFailAt n k => exact ti_setFlags h n _
  | logFailNone n => exact ti_setFlags h n _
  | nodeFail n => exact ti_nodeFail h n
  | sweep n => exact ⟨.of_moves (moves_sweep w n) h.r, .of_moves (moves_sweep w n) h.t⟩
  | idle ms => exact ti_wire.wireIdle h ms
  | elapse ms => exact ti_wire.elapse h ms
  | setPool n lo hi => exact ti_op_setPool h n lo hi
  | rpcPublish n topic payload => exact ⟨.of_moves (moves_distribute w n _) h.r, .of_moves (moves_distribute w n _) h.t⟩

/-- every reachable one-node world satisfies the invariant -/
theorem ti_reachable (w : World) (hr : Reachable w) (hlen : w.nodes.length = 1) : TI w := by
  obtain ⟨n, ops, rfl⟩ := hr
  have hn : n = 1 := by
    rw [← (foldl_inv (AgentT7.PInv n) applyOp ops _ (AgentT7.pinv_init n) (fun _ op _ hb => AgentT7.pinv_step hb op)).len]
    exact hlen
  subst hn
  exact foldl_inv TI applyOp ops _ ti_init (fun _ op _ hb => ti_step hb op)

theorem subSessInv_of_ti {w : World} (h : TI w) : SubSessInv w := by
  intro i hf kl hkl u hu hadd _ r hr
  by_cases hi : i = 0
  · subst hi
    rcases h.t.node.live hf kl hkl u hu hadd with ⟨r', hr', hk⟩ | hh
    · rw [hr] at hr'
      cases hr'
      exact h.t.node.tops r (sess_some hr).1 kl.1 hk
    · exact absurd hh (fun x => x)
  · rw [subs_oob h.t i hi] at hkl
    cases hkl

end Wasp.Broker.AgentT8
