import Wasp.Generated.AuthLit
import Wasp.Model.Auth
import Wasp.Proofs.Auth
import Wasp.Proofs.GoLit
/-! The tie by translation for the credential stores.

`Wasp.Generated.AuthLit.fileAuthenticate` / `.staticAuthenticate` / `.fileHandlerLoad` / `.staticHandlerNew`
are the LITERAL renderings of `(*fileHandler).Authenticate` (wasp/auth/file.go), `(*staticHandler).Authenticate`,
`StaticHandler` (wasp/auth/static.go) and of `FileHandler` from `out := make(…)` on (the record-building loop,
`sort.SliceStable(out, searchHelper(out))`, `return &fileHandler{db: out}, nil`), produced by
extract/imperative.go on every run. `fingerprintBytes` (hex SHA-256) is a parameter `B : Go.Bytes → String`;
`fingerprintString(s)` is inlined from hash.go as `B (Go.bytesOfString s)`; `Principal.ID` (`randomID()`) is
left out. The outer `Option` is the panic channel (`none` = index out of range or loop bound exceeded); the
answer proper is the pair (Principal, error) of the Go code.

They are proven equal to the hand-written model `Wasp.Auth.authenticate` / `staticAuthenticate` / `load`
for EVERY table (no sortedness hypothesis: the model's `goSearch` and `scanFrom` are the same bisection
and the same scan, so the two agree on unsorted tables as well), with no panic. -/
namespace Wasp.Auth.Lit
open Wasp.Generated.AuthLit

def recLit (r : Record) : fileRecord := ⟨r.userHash, r.passHash, r.mount⟩

def handlerOf (db : List Record) : fileHandler := ⟨db.map recLit⟩

/-- the (Principal, error) pair the file store answers for the model's verdict -/
def fileAnswer : Option String → Principal × Go.Error
  | some m => (⟨m⟩, Go.Error.nil)
  | none => (⟨""⟩, ErrAuthenticationFailed)

/-- as `fileAnswer`, but static.go refuses with `AuthenticationFailedMountPoint`, file.go with the zero Principal -/
def staticAnswer : Option String → Principal × Go.Error
  | some m => (⟨m⟩, Go.Error.nil)
  | none => (⟨AuthenticationFailedMountPoint⟩, ErrAuthenticationFailed)

/-- what a caller that checks `err != nil` first makes of the pair: the mount point, or a refusal -/
def verdict : Principal × Go.Error → Option String
  | (p, Go.Error.nil) => some p.MountPoint
  | (_, Go.Error.sentinel _) => none

theorem verdict_fileAnswer (o : Option String) : verdict (fileAnswer o) = o := by
  cases o <;> rfl

theorem verdict_staticAnswer (o : Option String) : verdict (staticAnswer o) = o := by
  cases o <;> rfl

theorem defaultMountPoint_eq : DefaultMountPoint = defaultMountPoint := rfl

/-! ### sort.Search: Go's loop on `int` and the model's loop on `Nat` -/

theorem searchLoop_eq_goSearchLoop (fI : Int → Bool) (fN : Nat → Bool) (n : Nat)
    (hf : ∀ k : Nat, k < n → fI (k : Int) = fN k) :
    ∀ (fuel i j : Nat), j ≤ n → Go.searchLoop fI fuel (i : Int) (j : Int) = (goSearchLoop fN fuel i j : Nat) := by
  intro fuel
  induction fuel with
  | zero => intro i j _; rfl
  | succ fuel ih =>
    intro i j hj
    unfold Go.searchLoop goSearchLoop
    by_cases hij : i < j
    · have hm := mid_bounds hij
      have hh : ((i : Int) + (j : Int)) / 2 = (((i + j) / 2 : Nat) : Int) := by
        rw [Int.natCast_ediv, Int.natCast_add]; rfl
      simp only [hij, Int.ofNat_lt.2 hij, if_true, hh, hf _ (Nat.lt_of_lt_of_le hm.2 hj)]
      cases fN ((i + j) / 2) with
      | false => exact ih ((i + j) / 2 + 1) j hj
      | true => exact ih i _ (Nat.le_trans (Nat.le_of_lt hm.2) hj)
    · simp only [hij, mt Int.ofNat_lt.1 hij, if_false]

theorem search_eq_goSearch (fI : Int → Bool) (fN : Nat → Bool) (n : Nat)
    (hf : ∀ k : Nat, k < n → fI (k : Int) = fN k) :
    Go.search (n : Int) fI = (goSearch n fN : Nat) := by
  have := searchLoop_eq_goSearchLoop fI fN n hf (n + 1) 0 n (Nat.le_refl _)
  simpa [Go.search, goSearch] using this

/-! ### fileHandler.Authenticate -/

theorem len_handler (db : List Record) : Go.len (handlerOf db).db = (db.length : Int) := by
  simp [handlerOf, Go.len]

theorem index_handler (db : List Record) (k : Nat) (r : Record) (h : db[k]? = some r) :
    Go.index (handlerOf db).db (k : Int) = recLit r := by
  simp [handlerOf, Go.index, List.getElem?_map, h]

theorem turn_eq (B : Go.Bytes → String) (db : List Record) (mq : ApplicationContext) (u : String) (k : Nat) :
    fileAuthenticate_loop1 B (handlerOf db) mq u (k : Int)
      = match db[k]? with
        | none => some (Go.Ctl.done (k : Int))
        | some r =>
          if r.userHash = u then
            if r.passHash = B mq.Password then
              some (Go.Ctl.ret (handlerOf db, (⟨r.mount⟩ : Principal), Go.Error.nil))
            else some (Go.Ctl.next ((k : Int) + 1))
          else some (Go.Ctl.done (k : Int)) := by
  cases h : db[k]? with
  | none =>
    have hlt : Go.lt (k : Int) (Go.len (handlerOf db).db) = false := by
      rw [len_handler, ← Bool.not_eq_true, Go.lt_iff]
      exact Int.not_lt.2 (Int.ofNat_le.2 (List.getElem?_eq_none_iff.1 h))
    simp [fileAuthenticate_loop1, hlt]
  | some r =>
    have hk : k < db.length := (List.getElem?_eq_some_iff.1 h).1
    have hlt : Go.lt (k : Int) (Go.len (handlerOf db).db) = true := by
      rw [len_handler, Go.lt_iff]; exact Int.ofNat_lt.2 hk
    have hin : Go.inRange (handlerOf db).db (k : Int) = true := by
      rw [Go.inRange_iff, ← Go.len_eq, len_handler]; exact ⟨Int.natCast_nonneg k, Int.ofNat_lt.2 hk⟩
    simp only [fileAuthenticate_loop1, hlt, hin, index_handler db k r h, recLit, Go.eq,
      Bool.not_true, Bool.false_or, Bool.true_and, if_true, decide_eq_true_eq]

/-- the scan loop as written and the model's `scanFrom` (same fuel): both accept with the same mount
    point, or the loop ends normally where the model refuses -/
theorem loop_spec (B : Go.Bytes → String) (db : List Record) (mq : ApplicationContext) (u : String) :
    ∀ (fuel k : Nat), k ≤ db.length → db.length < k + fuel →
      ∃ k' : Int, Go.loop fuel (k : Int) (fileAuthenticate_loop1 B (handlerOf db) mq u)
        = some (match scanFrom db u (B mq.Password) fuel k with
            | some m => Go.Ctl.ret (handlerOf db, (⟨m⟩ : Principal), Go.Error.nil)
            | none => Go.Ctl.done k') := by
  intro fuel
  induction fuel with
  | zero => intro k hk h; omega
  | succ fuel ih =>
    intro k _ hf
    unfold scanFrom
    rw [Go.loop, turn_eq]
    cases hget : db[k]? with
    | none => exact ⟨k, rfl⟩
    | some r =>
      by_cases hu : r.userHash = u
      · by_cases hp : r.passHash = B mq.Password
        · exact ⟨0, by simp only [hu, hp, if_true]⟩
        · simp only [hu, hp, if_true, if_false]
          exact ih (k + 1) (List.getElem?_eq_some_iff.1 hget).1 (by omega)
      · exact ⟨k, by simp only [hu, if_false]⟩

/-- `(*fileHandler).Authenticate` as written, on ANY table (sorted or not) and any byte strings whose
    fingerprints are those of `user` / `pass`: no panic, the handler is unchanged, and the answer is the
    one of the model `Wasp.Auth.authenticate` -/
theorem fileAuthenticateLit_eq (B : Go.Bytes → String) (H : String → String) (db : List Record)
    (user pass : String) (ub pb : Go.Bytes) (hu : B ub = H user) (hp : B pb = H pass) :
    fileAuthenticate B (handlerOf db) ⟨ub, pb⟩
      = some (handlerOf db, fileAnswer (authenticate H db user pass)) := by
  let fN : Nat → Bool := fun i => match db[i]? with
      | some r => decide (r.userHash ≥ H user) | none => true
  have hauth : authenticate H db user pass =
      scanFrom db (H user) (H pass) (db.length + 1) (goSearch db.length fN) := rfl
  have hg : Go.forallBelow (db.length : Int) (fun i => Go.inRange (handlerOf db).db i) = true := by
    rw [Go.forallBelow_iff]; intro i h0 hi
    rw [Go.inRange_iff, ← Go.len_eq, len_handler]; exact ⟨h0, hi⟩
  have hs : Go.search (db.length : Int)
      (fun i => Go.strGe (Go.index (handlerOf db).db i).UsernameHash (H user)) = (goSearch db.length fN : Nat) := by
    apply search_eq_goSearch
    intro k hk
    have hget : db[k]? = some db[k] := List.getElem?_eq_getElem hk
    simp only [index_handler db k _ hget, fN, hget, recLit, Go.strGe]
  obtain ⟨k', hl⟩ := loop_spec B db ⟨ub, pb⟩ (H user) (db.length + 1) (goSearch db.length fN)
    (goSearch_le _ _) (by omega)
  rw [hauth]
  simp only [fileAuthenticate, hu, hg, hs, len_handler, Int.toNat_natCast, if_true, hl, hp]
  cases scanFrom db (H user) (H pass) (db.length + 1) (goSearch db.length fN) <;> rfl

/-! ### staticHandler.Authenticate, StaticHandler -/

/-- `(*staticHandler).Authenticate` as written = the model `Wasp.Auth.staticAuthenticate`, on the
    handler that holds the fingerprints of the configured pair -/
theorem staticAuthenticateLit_eq (B : Go.Bytes → String) (H : String → String) (cu cp user pass : String)
    (ub pb : Go.Bytes) (hu : B ub = H user) (hp : B pb = H pass) :
    Wasp.Generated.AuthLit.staticAuthenticate B ⟨H cu, H cp⟩ ⟨ub, pb⟩
      = some (⟨H cu, H cp⟩, staticAnswer (Wasp.Auth.staticAuthenticate H cu cp user pass)) := by
  unfold Wasp.Generated.AuthLit.staticAuthenticate Wasp.Auth.staticAuthenticate
  simp only [hu, hp, Go.ne]
  by_cases h1 : H user = H cu
  · by_cases h2 : H pass = H cp
    · simp [h1, h2, staticAnswer, defaultMountPoint_eq]
    · simp [h1, h2, staticAnswer]
  · simp [h1, staticAnswer]

/-- `StaticHandler(username, password)` as written builds that handler (no error) -/
theorem staticHandlerNewLit_eq (B : Go.Bytes → String) (cu cp : String) :
    staticHandlerNew B cu cp
      = some (⟨B (Go.bytesOfString cu), B (Go.bytesOfString cp)⟩, Go.Error.nil) := rfl

/-! ### FileHandler: the record-building loop and the sort -/

/-- the records one csv line contributes -/
def lineLit (H : String → String) (x : List String) : List fileRecord := ((recordOf H x).toList).map recLit

theorem load_turn (B : Go.Bytes → String) (pre : List (List String)) (x : List String) (rest : List (List String))
    (out : List fileRecord) :
    fileHandlerLoad_loop1 B (pre ++ x :: rest) (out, (pre.length : Int))
      = some (Go.Ctl.next (out ++ lineLit (fun s => B (Go.bytesOfString s)) x, (pre.length : Int) + 1)) := by
  simp only [fileHandlerLoad_loop1, Go.lt_len_append_length, Go.inRange_append_length, Go.index_append_length,
    if_true, Bool.true_and]
  rcases x with _ | ⟨a, _ | ⟨b, _ | ⟨c, _ | ⟨d, t⟩⟩⟩⟩
  · simp [lineLit, recordOf, Go.eq, Go.len]
  · simp [lineLit, recordOf, Go.eq, Go.len]
  · simp [lineLit, recordOf, recLit, Go.eq, Go.len, Go.inRange, Go.index, defaultMountPoint_eq]
  · simp only [Go.inRange_append_last, Go.index_append_last, Go.set_append_last]
    by_cases hc : c = ""
    · simp [lineLit, recordOf, recLit, Go.eq, Go.len, defaultMountPoint_eq, hc, Go.inRange, Go.index]
    · simp [lineLit, recordOf, recLit, Go.eq, Go.len, hc, Go.inRange, Go.index]
  · have h2 : Go.eq (Go.len (a :: b :: c :: d :: t)) (2 : Int) = false := by
      simp only [Go.eq, Go.len, List.length_cons, decide_eq_false_iff_not]; omega
    have h3 : Go.eq (Go.len (a :: b :: c :: d :: t)) (3 : Int) = false := by
      simp only [Go.eq, Go.len, List.length_cons, decide_eq_false_iff_not]; omega
    simp [lineLit, recordOf, h2, h3]

theorem load_loop (B : Go.Bytes → String) :
    ∀ (rest pre : List (List String)) (out : List fileRecord),
      Go.loop (rest.length + 1) (out, (pre.length : Int)) (fileHandlerLoad_loop1 B (pre ++ rest))
        = some (Go.Ctl.done (out ++ (rest.filterMap (recordOf (fun s => B (Go.bytesOfString s)))).map recLit,
            Go.len (pre ++ rest))) := by
  intro rest
  induction rest with
  | nil =>
    intro pre out
    simp [Go.loop, fileHandlerLoad_loop1, Go.lt_len_length]
  | cons x rest ih =>
    intro pre out
    have := ih (pre ++ [x]) (out ++ lineLit (fun s => B (Go.bytesOfString s)) x)
    simp only [List.append_assoc, List.singleton_append, List.length_append, List.length_singleton,
      Int.natCast_add, Int.natCast_one] at this
    rw [List.length_cons, Go.loop, load_turn]
    simp only [this]
    cases hrec : recordOf (fun s => B (Go.bytesOfString s)) x <;> simp [lineLit, hrec]

/-- `strings.Compare(a, b) == -1` is `a < b`; going behind the smaller elements is going in front of the others -/
theorem insertBy_lit (r : Record) (l : List Record) :
    Go.insertBy (fun e_i e_j : fileRecord => Go.eq (Go.strCompare e_i.UsernameHash e_j.UsernameHash) (-(1 : Int)))
      (recLit r) (l.map recLit) = (insertByUser r l).map recLit := by
  induction l with
  | nil => rfl
  | cons x rest ih =>
    have hless : Go.eq (Go.strCompare (recLit x).UsernameHash (recLit r).UsernameHash) (-(1 : Int))
        = decide (x.userHash < r.userHash) := by
      show decide (Go.strCompare x.userHash r.userHash = -1) = decide (x.userHash < r.userHash)
      rw [decide_eq_decide]
      exact Go.strCompare_neg_one_iff _ _
    simp only [List.map_cons, Go.insertBy, hless, insertByUser]
    by_cases hlt : x.userHash < r.userHash
    · have : ¬ r.userHash ≤ x.userHash := fun h => (String.not_lt.mpr h) hlt
      simp [hlt, this, ih]
    · have : r.userHash ≤ x.userHash := String.not_lt.mp hlt
      simp [hlt, this]

/-- `sort.SliceStable(out, searchHelper(out))` is the model's stable insertion sort by user fingerprint -/
theorem sortStableBy_lit (l : List Record) :
    Go.sortStableBy (fun e_i e_j : fileRecord => Go.eq (Go.strCompare e_i.UsernameHash e_j.UsernameHash) (-(1 : Int)))
      (l.map recLit) = (sortByUser l).map recLit := by
  induction l with
  | nil => rfl
  | cons x rest ih =>
    have ih' : List.foldr (Go.insertBy fun e_i e_j : fileRecord =>
        Go.eq (Go.strCompare e_i.UsernameHash e_j.UsernameHash) (-(1 : Int))) [] (List.map recLit rest)
        = (sortByUser rest).map recLit := ih
    simp only [Go.sortStableBy, List.map_cons, List.foldr_cons, ih', insertBy_lit]
    rfl

/-- `FileHandler` as written, from the parsed csv records on (the record-building loop, the stable sort,
    the returned handler): no panic, no error, and the handler holds exactly the model's `load` -/
theorem fileHandlerLoadLit_eq (B : Go.Bytes → String) (records : List (List String)) :
    fileHandlerLoad B records
      = some (handlerOf (load (fun s => B (Go.bytesOfString s)) records), Go.Error.nil) := by
  have hl := load_loop B records [] []
  simp only [List.nil_append, List.length_nil, Int.natCast_zero] at hl
  simp only [fileHandlerLoad, Int.toNat_natCast, hl, sortStableBy_lit, handlerOf, load]

/-! ### the two together, and non-vacuity -/

/-- the handler `FileHandler` builds, queried by `Authenticate`: the model's `authenticate ∘ load` -/
theorem file_end_to_end (B : Go.Bytes → String) (records : List (List String)) (user pass : String) :
    (fileHandlerLoad B records).bind (fun hr =>
        fileAuthenticate B hr.1 ⟨Go.bytesOfString user, Go.bytesOfString pass⟩)
      = some (handlerOf (load (fun s => B (Go.bytesOfString s)) records),
          fileAnswer (authenticate (fun s => B (Go.bytesOfString s))
            (load (fun s => B (Go.bytesOfString s)) records) user pass)) := by
  rw [fileHandlerLoadLit_eq, Option.bind_some]
  exact fileAuthenticateLit_eq B (fun s => B (Go.bytesOfString s)) _ user pass _ _ rfl rfl

/-! Non-vacuity: a concrete file (six users in "bad" order, a duplicate user name, 2- and 3-field lines, an empty
    third field, lines of other lengths). -/

/-- stand-in fingerprint, injective: the decimal byte values, each followed by a dot -/
def demoB : Go.Bytes → String := fun b => String.join (b.map fun c => toString c.toNat ++ ".")

def demoH (s : String) : String := demoB (Go.bytesOfString s)

def demoRecords : List (List String) :=
  [["u4", demoH "p4"], ["u1", demoH "p1", "m1"], ["u6", demoH "p6"], [], ["u2", demoH "p2", ""],
   ["u5", demoH "p5", "m5"], ["x"], ["u3", demoH "p3"], ["u1", demoH "q1", "n1"], ["a", "b", "c", "d"]]

/-- load with the code as written, ask with the code as written: the outer `Option` is the panic channel,
    the inner one the verdict -/
def demoAsk (user pass : String) : Option (Option String) :=
  ((fileHandlerLoad demoB demoRecords).bind (fun hr =>
      fileAuthenticate demoB hr.1 ⟨Go.bytesOfString user, Go.bytesOfString pass⟩)).map (fun r => verdict r.2)

example : [demoAsk "u1" "p1", demoAsk "u1" "q1", demoAsk "u2" "p2", demoAsk "u3" "p3", demoAsk "u4" "p4",
           demoAsk "u5" "p5", demoAsk "u6" "p6", demoAsk "u6" "p5", demoAsk "u0" "p1", demoAsk "x" "", demoAsk "u7" "p7"]
    = [some (some "m1"), some (some "n1"), some (some "_default"), some (some "_default"), some (some "_default"),
       some (some "m5"), some (some "_default"), some none, some none, some none, some none] := by decide +kernel

example : (fileHandlerLoad demoB demoRecords).map (fun hr => hr.1.db.map (·.MountPoint))
    = some ["m1", "n1", "_default", "_default", "_default", "m5", "_default"] := by decide +kernel

/-- the static store as written: the configured pair, a wrong password, a wrong user -/
example : ((staticHandlerNew demoB "admin" "secret").bind fun hr =>
      (Wasp.Generated.AuthLit.staticAuthenticate demoB hr.1 ⟨Go.bytesOfString "admin", Go.bytesOfString "secret"⟩)).map (·.2)
    = some (⟨"_default"⟩, Go.Error.nil) := by decide +kernel

example : ((staticHandlerNew demoB "admin" "secret").bind fun hr =>
      (Wasp.Generated.AuthLit.staticAuthenticate demoB hr.1 ⟨Go.bytesOfString "admin", Go.bytesOfString "secre"⟩)).map (·.2)
    = some (⟨"_authentication_failed"⟩, Go.Error.sentinel "ErrAuthenticationFailed") := by decide +kernel

/-- the panic channel is not vacuous either: a handler cannot make `Authenticate` panic, but the guard is
    there — an index outside the table is `none` in the translated loop -/
example : fileAuthenticate_loop1 demoB (handlerOf []) ⟨[], []⟩ "" (-1) = none := by decide +kernel

end Wasp.Auth.Lit
