import Wasp.Model.MsgLog
/-! Helper lemmas for the message-log model: truncation arithmetic, `exec` over appended
    step lists, per-step frame facts. -/
namespace Wasp.MsgLog
open Wasp.Generated

theorem truncateBefore_next (l : Log) (o : Nat) : (l.truncateBefore o).next = l.next := rfl

theorem truncateBefore_base_ge (l : Log) (o : Nat) : l.base ≤ (l.truncateBefore o).base :=
  Nat.le_max_left _ _

theorem truncateBefore_base (l : Log) (o : Nat) :
    (l.truncateBefore o).base = l.base ∨ (l.truncateBefore o).base ≤ o := by
  have := Nat.div_mul_le_self o segmentSize
  simp only [Log.truncateBefore]
  omega

theorem maybeTruncate_next (l : Log) (cur : Nat) : (maybeTruncate l cur).next = l.next := by
  unfold maybeTruncate
  split <;> rfl

theorem maybeTruncate_base_ge (l : Log) (cur : Nat) : l.base ≤ (maybeTruncate l cur).base := by
  unfold maybeTruncate
  split
  · exact truncateBefore_base_ge l _
  · exact Nat.le_refl _

theorem maybeTruncate_base (l : Log) (cur : Nat) :
    (maybeTruncate l cur).base = l.base ∨ (maybeTruncate l cur).base + truncKeep ≤ cur := by
  unfold maybeTruncate
  split
  · rename_i hc
    -- `truncKeep ≤ truncAfter` is an obligation on the constants read from the Go source on every
    -- run: if a change of store.go broke it, this `decide` fails and the margin is lost
    have hk : truncKeep ≤ cur := Nat.le_trans (by decide : truncKeep ≤ truncAfter) (Nat.le_of_lt hc.1)
    exact (truncateBefore_base l (cur - truncKeep)).imp_right fun h => (Nat.le_sub_iff_add_le hk).mp h
  · exact Or.inl rfl

theorem exec_append (s : State) (xs ys : List Step) :
    exec s (xs ++ ys) =
      ((exec (exec s xs).1 ys).1, (exec s xs).2 ++ (exec (exec s xs).1 ys).2) := by
  induction xs generalizing s with
  | nil => simp [exec]
  | cons x xs ih => simp [exec, ih]

theorem exec_nil (s : State) : exec s [] = (s, []) := rfl

theorem exec_cons (s : State) (x : Step) (xs : List Step) :
    exec s (x :: xs) = ((exec (step s x).1 xs).1, (step s x).2 :: (exec (step s x).1 xs).2) := rfl

theorem incarnation_fst (s : State) (k : Nat) (inCb : Bool) :
    (incarnation s k inCb).1 = (exec s (incarnationSteps k inCb)).1 := by
  rw [incarnation]

theorem incarnation_snd (s : State) (k : Nat) (inCb : Bool) :
    (incarnation s k inCb).2 = (exec s (incarnationSteps k inCb)).2.filterMap id := by
  rw [incarnation]

/-! ### equations of `step`, one per enabledness case -/

theorem step_append (s : State) :
    step s .append = ({ s with log := { s.log with next := s.log.next + 1 } }, none) := rfl

theorem step_crash (s : State) : step s .crash = ({ s with run := none }, none) := rfl

theorem step_start_some {s : State} {r : Run} (h : s.run = some r) : step s .start = (s, none) := by
  simp only [step, h]

theorem step_start_none {s : State} (h : s.run = none) :
    step s .start =
      ({ s with log := maybeTruncate s.log s.st, run := some ⟨s.st, none, false⟩ }, none) := by
  simp only [step, h]

theorem step_norun {s : State} (h : s.run = none) (x : Step)
    (hx : x = .deliver ∨ x = .commit ∨ x = .truncate ∨ x = .stop) : step s x = (s, none) := by
  rcases hx with rfl | rfl | rfl | rfl <;> simp only [step, h]

theorem step_deliver_en {s : State} {r : Run} (h : s.run = some r) (hp : r.pending = none)
    (hn : r.needTrunc = false) (h1 : r.cur < s.log.next) (h2 : s.log.base ≤ r.cur) :
    step s .deliver = ({ s with run := some { r with pending := some r.cur } }, some r.cur) := by
  simp [step, h, hp, hn, h1, h2]

theorem step_deliver_dis {s : State} {r : Run} (h : s.run = some r)
    (hc : ¬ (r.pending = none ∧ r.needTrunc = false ∧ r.cur < s.log.next ∧ s.log.base ≤ r.cur)) :
    step s .deliver = (s, none) := by
  simp only [step, h]
  split
  · rename_i hc'
    simp only [Option.isNone_iff_eq_none, Bool.not_eq_eq_eq_not, Bool.not_true] at hc'
    exact absurd hc' hc
  · rfl

theorem step_commit_en {s : State} {r : Run} {o : Nat} (h : s.run = some r) (hp : r.pending = some o) :
    step s .commit = ({ s with st := o + 1, run := some ⟨o + 1, none, true⟩ }, none) := by
  simp only [step, h, hp]

theorem step_commit_dis {s : State} {r : Run} (h : s.run = some r) (hp : r.pending = none) :
    step s .commit = (s, none) := by
  simp only [step, h, hp]

theorem step_truncate_en {s : State} {r : Run} (h : s.run = some r) (hn : r.needTrunc = true) :
    step s .truncate =
      ({ s with log := maybeTruncate s.log s.st, run := some { r with needTrunc := false } }, none) := by
  simp [step, h, hn]

theorem step_truncate_dis {s : State} {r : Run} (h : s.run = some r) (hn : r.needTrunc = false) :
    step s .truncate = (s, none) := by
  simp [step, h, hn]

theorem step_stop_en {s : State} {r : Run} (h : s.run = some r) (hp : r.pending = none) :
    step s .stop = ({ s with run := none }, none) := by
  simp [step, h, hp]

theorem step_stop_dis {s : State} {r : Run} {o : Nat} (h : s.run = some r) (hp : r.pending = some o) :
    step s .stop = (s, none) := by
  simp [step, h, hp]

/-- Case analysis over what one step does: it is skipped, or it is enabled and the new state
    and the observation are as given. -/
theorem step_elim {motive : Step → State × Obs → Prop} (s : State)
    (skip : ∀ x, motive x (s, none))
    (append : motive .append ({ s with log := { s.log with next := s.log.next + 1 } }, none))
    (start : s.run = none →
      motive .start ({ s with log := maybeTruncate s.log s.st, run := some ⟨s.st, none, false⟩ }, none))
    (deliver : ∀ r, s.run = some r → r.pending = none → r.needTrunc = false → r.cur < s.log.next →
      s.log.base ≤ r.cur →
      motive .deliver ({ s with run := some { r with pending := some r.cur } }, some r.cur))
    (commit : ∀ r o, s.run = some r → r.pending = some o →
      motive .commit ({ s with st := o + 1, run := some ⟨o + 1, none, true⟩ }, none))
    (truncate : ∀ r, s.run = some r → r.needTrunc = true →
      motive .truncate
        ({ s with log := maybeTruncate s.log s.st, run := some { r with needTrunc := false } }, none))
    (crash : motive .crash ({ s with run := none }, none))
    (stop : ∀ r, s.run = some r → r.pending = none → motive .stop ({ s with run := none }, none))
    (x : Step) : motive x (step s x) := by
  cases hr : s.run with
  | none =>
    cases x with
    | append => exact append
    | start => rw [step_start_none hr]; exact start hr
    | deliver => rw [step_norun hr _ (.inl rfl)]; exact skip _
    | commit => rw [step_norun hr _ (.inr (.inl rfl))]; exact skip _
    | truncate => rw [step_norun hr _ (.inr (.inr (.inl rfl)))]; exact skip _
    | crash => exact crash
    | stop => rw [step_norun hr _ (.inr (.inr (.inr rfl)))]; exact skip _
  | some r =>
    cases x with
    | append => exact append
    | start => rw [step_start_some hr]; exact skip _
    | deliver =>
      by_cases hc : r.pending = none ∧ r.needTrunc = false ∧ r.cur < s.log.next ∧ s.log.base ≤ r.cur
      · rw [step_deliver_en hr hc.1 hc.2.1 hc.2.2.1 hc.2.2.2]
        exact deliver r hr hc.1 hc.2.1 hc.2.2.1 hc.2.2.2
      · rw [step_deliver_dis hr hc]; exact skip _
    | commit =>
      cases hp : r.pending with
      | none => rw [step_commit_dis hr hp]; exact skip _
      | some o => rw [step_commit_en hr hp]; exact commit r o hr hp
    | truncate =>
      cases hn : r.needTrunc with
      | false => rw [step_truncate_dis hr hn]; exact skip _
      | true => rw [step_truncate_en hr hn]; exact truncate r hr hn
    | crash => exact crash
    | stop =>
      cases hp : r.pending with
      | none => rw [step_stop_en hr hp]; exact stop r hr hp
      | some o => rw [step_stop_dis hr hp]; exact skip _

/-- only `deliver` produces an observation -/
theorem step_obs_none (s : State) (x : Step) (hx : x ≠ .deliver) : (step s x).2 = none := by
  revert hx
  apply step_elim (motive := fun x p => x ≠ .deliver → p.2 = none) s
  case deliver => exact fun _ _ _ _ _ _ h => absurd rfl h
  all_goals intros; rfl

/-- `next` only grows -/
theorem step_next_mono (s : State) (x : Step) : s.log.next ≤ (step s x).1.log.next := by
  apply step_elim (motive := fun _ p => s.log.next ≤ p.1.log.next) s
  case append => exact Nat.le_succ _
  case start => exact fun _ => Nat.le_of_eq (maybeTruncate_next _ _).symm
  case truncate => exact fun _ _ _ => Nat.le_of_eq (maybeTruncate_next _ _).symm
  all_goals intros; exact Nat.le_refl _

end Wasp.MsgLog
