import Wasp.Proofs.BucketLit
/-!
# C04 — the timeout buckets AS WRITTEN are the buckets the theorems are about

`Wasp.Generated.BucketLit.put/delete` are regenerated from `wasp/expiration/bucket.go` on every run (append +
`sort.SliceStable` as a stable insertion sort; `sort.Search` literally; the `for` loop with fuel `len + 1`; every
index/slice guarded). On a bucket sorted by deadline — an invariant of every reachable queue (`QInv.bucketsSorted`,
`C04_inv`) — the code as written never panics and computes the model's `bucketPut` / `bucketDelete`.
-/
namespace Wasp.Ack
open Wasp.Ack.BucketLit

theorem C04_code_bucket_put_is_model (index dl : Int) (b : List Item) (hs : Sorted b) (v : Key) (d : Time) :
    Wasp.Generated.BucketLit.put (toLit index dl b) v d = some (toLit index dl (bucketPut ⟨v, d⟩ b)) :=
  putLit_eq index dl b hs v d

theorem C04_code_bucket_delete_is_model (index dl : Int) (b : List Item) (hs : Sorted b) (v : Key) (d : Time) :
    Wasp.Generated.BucketLit.delete (toLit index dl b) v d
      = some (toLit index dl (bucketDelete v d b).1, (bucketDelete v d b).2) :=
  deleteLit_eq index dl b hs v d

end Wasp.Ack
