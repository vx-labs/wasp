import Wasp.Model.Conc
import Wasp.Proofs.Conc
/-!
# C20 — shared broker state is safe under concurrent use

* `C20_lockset_drf`: in the interleaving semantics of threads over readers-writer locks, a program that
  follows the lock discipline (every two conflicting accesses of different threads are made under a common
  lock, exclusively held by at least one) never reaches a state in which two threads are about to perform
  conflicting accesses — for EVERY schedule. The discipline table of the broker's shared structures
  (session registry, id pool, timeout list + buckets, both tries, the three replicated stores, the
  per-session filter list) is regenerated from the Go source on every run and checked by `decide`
  (`Wasp.Generated.LockTable`, `C20_table_disciplined` in Properties/C20Table.lean).
* every public operation of those structures that is ONE critical section under ONE mutex is a single
  atomic step: any concurrent execution equals some sequential history, so C06 / C08 / C19 transfer
  (distinct-key effects all present, identifiers distinct);
* `C20_resolve_once`, `C20_resolution_claimed`: for the multi-step operations of the in-flight table, in
  EVERY interleaving of any number of Insert / Ack / Expire threads, the number of callback invocations of
  a key never exceeds the number of accepted registrations of it — each accepted entry resolves at most
  once — and `resolved + claimed + present = accepted` per key (nothing is lost either).
What this cannot exhibit: the Go memory model itself (sequentially consistent interleavings are assumed,
the standard DRF argument), the internals of the lock-free hash (assumed linearisable), goroutine
scheduling fairness. Claimed partial; `go test -race`-style stress runs support it.
-/
namespace Wasp.Conc
open Wasp.Conc.Proofs

/-- C20 (locks): a disciplined program is data-race free under every schedule -/
theorem C20_lockset_drf (progs : List (List Act)) (hd : Disciplined progs) (sched : List Nat) :
    ¬ raceState (runSchedule { progs := progs, held := [] } sched) :=
  linv_no_race progs hd _ (linv_run progs sched _ (linv_init progs))

/-- C20 (resolution): accounting invariant per key, for every interleaving from a state in which no thread is
    in the middle of an operation -/
theorem C20_resolution_accounting (pcs : List Pc)
    (hstart : ∀ pc ∈ pcs, (∃ k, pc = .insertStart k) ∨ (∃ k b, pc = .ackStart k b) ∨ pc = .sweepPop ∨ pc = .done)
    (sched : List Nat) (k : Key) :
    let s := qrun { pcs := pcs } sched
    s.resolved.count k + (claimed s).count k + s.present.count k = s.accepted.count k := by
  exact (qrun_inv sched _ (resInv_start pcs hstart)).1 k

/-- each accepted registration is resolved at most once -/
theorem C20_resolve_once (pcs : List Pc)
    (hstart : ∀ pc ∈ pcs, (∃ k, pc = .insertStart k) ∨ (∃ k b, pc = .ackStart k b) ∨ pc = .sweepPop ∨ pc = .done)
    (sched : List Nat) (k : Key) :
    (qrun { pcs := pcs } sched).resolved.count k ≤ (qrun { pcs := pcs } sched).accepted.count k := by
  have := (qrun_inv sched _ (resInv_start pcs hstart)).1 k
  omega

/-- a key is in the table at most once (put-if-missing) -/
theorem C20_present_nodup (pcs : List Pc)
    (hstart : ∀ pc ∈ pcs, (∃ k, pc = .insertStart k) ∨ (∃ k b, pc = .ackStart k b) ∨ pc = .sweepPop ∨ pc = .done)
    (sched : List Nat) : (qrun { pcs := pcs } sched).present.Nodup :=
  (qrun_inv sched _ (resInv_start pcs hstart)).2

/-- non-vacuity: an Ack and a sweep race for the same entry; whichever deletes first fires, the other does not -/
example : (qrun { pcs := [.insertStart 7, .ackStart 7 true, .sweepPop] } [0, 0, 1, 2, 2, 1, 2, 1, 1, 2]).resolved = [7] ∧
          (qrun { pcs := [.insertStart 7, .ackStart 7 true, .sweepPop] } [0, 0, 1, 2, 1, 1, 2, 2, 1, 2]).resolved = [7] := by decide +kernel

end Wasp.Conc
