import Wasp.Model.Conc
import Wasp.Generated.LockTable
import Wasp.Properties.C20
import Wasp.Properties.C20Table
import Wasp.Proofs.ConcT2
/-!
# C20 — from the regenerated lock table to data-race freedom, mechanically

`C20_lockset_drf` (Properties/C20.lean) needs `Disciplined progs`; `C20_table_disciplined` (Properties/C20Table.lean)
decides `tableDisciplined lockTable` on the table regenerated from the Go source. This file closes the gap: for ANY
table that passes `tableDisciplined` (and lists no lock twice in a row), every program whose threads execute any
sequences of the table's rows — each row being "take the row's locks, make the row's access, release them" — is
`Disciplined`, hence free of data races under every schedule. Instantiated with the generated table.
-/
namespace Wasp.Conc
open Wasp.Generated Wasp.Conc.Lift

theorem C20_table_lift (t : List Entry) (hd : tableDisciplined t = true) (hn : rowsNodup t = true)
    (threads : List (List Nat)) : Disciplined (threads.map (threadProg t)) :=
  table_lift t hd hn threads

theorem C20_generated_rows_nodup : rowsNodup lockTable = true := by decide +kernel

/-- the broker's shared structures, accessed as the source accesses them NOW, by any number of threads running any
    sequences of those accesses, under every schedule: no data race -/
theorem C20_generated_table_drf (threads : List (List Nat)) (sched : List Nat) :
    ¬ raceState (runSchedule { progs := threads.map (threadProg lockTable), held := [] } sched) :=
  C20_lockset_drf _ (C20_table_lift lockTable C20_table_disciplined C20_generated_rows_nodup threads) sched

/-- the hypothesis is needed: a table with an unprotected write is not lifted (two threads running row 0 race) -/
theorem C20_table_lift_needs_discipline :
    let t : List Entry := [("x", "m", true, [])]
    tableDisciplined t = false ∧ raceState (runSchedule { progs := [[0], [0]].map (threadProg t), held := [] } []) := by
  exact ⟨by decide, 0, 1, 0, true, true, by decide, rfl, rfl, Or.inl rfl⟩

end Wasp.Conc
