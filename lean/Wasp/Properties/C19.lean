import Wasp.Proofs.Trie
/-!
# C19 — topic-keyed stores behave as maps over full topic paths

Both tries (`subscriptions/node.go`, `topics/node.go`) refine the simplest possible
spec: a total function `path ↦ value` (empty = absent). Writing, replacing or removing
the value at one path never changes the value at any other path — prefixes included —
and Count / Iterate report exactly the non-empty entries, each once.
Paths are level lists (`Topic.levels` of the topic string; `levels` is injective, see
`Wasp.Topic.levels_injective`).
-/
namespace Wasp.Trie
open Wasp.Topic

abbrev Spec := List Level → Bytes

def Spec.empty : Spec := fun _ => []
def Spec.modify (m : Spec) (p : List Level) (f : Bytes → Bytes) : Spec :=
  fun q => if q = p then f (m p) else m q

/-! ## subscription index -/

structure SubOp where
  path : List Level
  f : Bytes → Bytes

def subRun : List SubOp → Node → Node
  | [], n => n
  | op :: ops, n => subRun ops (Sub.update op.f op.path n)

def subSpec : List SubOp → Spec → Spec
  | [], m => m
  | op :: ops, m => subSpec ops (m.modify op.path op.f)

/-- one Upsert is a point update of the map -/
theorem C19_sub_point (f : Bytes → Bytes) (p : List Level) (hp : p ≠ []) (n : Node) (q : List Level) :
    get (Sub.update f p n) q = if q = p then f (get n p) else get n q :=
  Sub.get_update f p hp n q

/-- any sequence of Upserts (creating, replacing, emptying, pruning) is the same sequence
    of point updates: the index is a map over full paths -/
theorem C19_sub_refines (ops : List SubOp) (hops : ∀ op ∈ ops, op.path ≠ []) (n : Node) :
    get (subRun ops n) = subSpec ops (get n) := by
  induction ops generalizing n with
  | nil => rfl
  | cons op ops ih =>
    exact (ih (fun o ho => hops o (List.mem_cons_of_mem _ ho)) _).trans
      (congrArg (subSpec ops) (funext (Sub.get_update op.f op.path (hops op (List.mem_cons_self ..)) n)))

theorem C19_sub_wf (ops : List SubOp) (n : Node) (h : WF n) : WF (subRun ops n) := by
  induction ops generalizing n with
  | nil => exact h
  | cons op ops ih => exact ih _ (Sub.WF_update op.f op.path n h)

/-! ## retained-message store -/

inductive RetOp where
  | insert (path : List Level) (msg : Bytes)
  | remove (path : List Level)

def RetOp.path : RetOp → List Level
  | .insert p _ => p
  | .remove p => p

def retStep (n : Node) : RetOp → Node
  | .insert p msg => (Ret.insert msg p n).1
  | .remove p => (Ret.remove p n).getD n

def retRun : List RetOp → Node → Node
  | [], n => n
  | op :: ops, n => retRun ops (retStep n op)

def retSpecStep (m : Spec) : RetOp → Spec
  | .insert p msg => m.modify p (fun _ => msg)
  | .remove p => m.modify p (fun _ => [])

def retSpec : List RetOp → Spec → Spec
  | [], m => m
  | op :: ops, m => retSpec ops (retSpecStep m op)

theorem C19_ret_step (n : Node) (op : RetOp) (hp : op.path ≠ []) :
    get (retStep n op) = retSpecStep (get n) op := by
  funext q
  cases op with
  | insert p msg => exact Ret.get_insert msg p hp n q
  | remove p =>
    show get ((Ret.remove p n).getD n) q = if q = p then [] else get n q
    cases h : Ret.remove p n with
    | none =>
      by_cases hq : q = p
      · rw [if_pos hq, hq]
        exact Ret.remove_none p n h
      · rw [if_neg hq]
        rfl
    | some n' => exact Ret.get_remove p hp n n' h q

/-- any sequence of Insert / Remove calls is the same sequence of point updates -/
theorem C19_ret_refines (ops : List RetOp) (hops : ∀ op ∈ ops, op.path ≠ []) (n : Node) :
    get (retRun ops n) = retSpec ops (get n) := by
  induction ops generalizing n with
  | nil => rfl
  | cons op ops ih =>
    exact (ih (fun o ho => hops o (List.mem_cons_of_mem _ ho)) _).trans
      (congrArg (retSpec ops) (C19_ret_step n op (hops op (List.mem_cons_self ..))))

/-- Insert reports "replaced" exactly when the path held a non-empty value -/
theorem C19_ret_insert_old (msg : Bytes) (p : List Level) (hp : p ≠ []) (n : Node) :
    (Ret.insert msg p n).2 = !(get n p).isEmpty := Ret.insert_old msg p hp n

theorem C19_ret_wf (ops : List RetOp) (n : Node) (h : WF n) : WF (retRun ops n) := by
  induction ops generalizing n with
  | nil => exact h
  | cons op ops ih =>
    apply ih
    cases op with
    | insert p msg => exact Ret.WF_insert msg p n h
    | remove p =>
      show WF ((Ret.remove p n).getD n)
      cases hr : Ret.remove p n with
      | none => exact h
      | some n' => exact Ret.WF_remove p n n' h hr

/-! ## Count and Iterate (both tries) -/

/-- Iterate lists exactly the non-empty entries … -/
theorem C19_iterate_exact (n : Node) (h : WF n) (p : List Level) (d : Bytes) :
    (p, d) ∈ iterP n [] ↔ ((nodeAt n p).isSome ∧ d = get n p ∧ d ≠ []) :=
  (mem_iterP n h [] p d).trans (exists_path_root _ p)

/-- … each exactly once, in every reachable trie; Count is their number -/
theorem C19_iterate_once (n : Node) (h : WF n) : ((iterP n []).map (·.1)).Nodup := nodup_iterP n h []

theorem C19_count (n : Node) : Ret.count n = (iterP n []).length := rfl

/-! ## Dump / Load
The model's round trip is the identity (the protobuf encoding is outside the model; that the
real Dump/Load pair behaves like this — including accepting updates afterwards — is
what the correspondence suites check at every position of every sequence). -/
theorem C19_roundtrip (n : Node) (q : List Level) : get (dumpLoad n) q = get n q := rfl

/-- non-vacuity: prefix-related keys, replace, remove with pruning -/
example :
    let n := retRun [.insert ["a"] [1], .insert ["a", "b"] [2], .insert ["a", "b", "c"] [3],
                     .remove ["a", "b", "c"], .remove ["a", "b"]] Node.empty
    get n ["a"] = [1] ∧ get n ["a", "b"] = [] ∧ Ret.count n = 1 := by decide +kernel

end Wasp.Trie
