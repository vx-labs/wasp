import Wasp.Properties.C05
import Wasp.Properties.C12
import Wasp.Properties.Reachable2
import Wasp.Properties.E2E
import Wasp.Properties.C02E2E
import Wasp.Proofs.BrokerT13
import Wasp.Proofs.BrokerT14
/-!
# C05 (QoS 2 inbound handshake) and C12 (take-over) end to end

* C05: on a reachable one-node world a QoS 2 PUBLISH is answered by PUBREC and forwarded to nobody; the PUBREL forwards
  it — once — to exactly the registered sessions with a live matching subscription and is answered by PUBCOMP; when the
  log rejects the message the PUBREL forwards nothing and is NOT answered; a repeated PUBREL is ignored.
* C12: a second connection with the client identifier (and mount point) of a current session: the identifier resolves
  to the new session only; the new session's PINGREQ is answered; the displaced session's next PINGREQ ends it — it is
  closed, gets no PINGRESP, and its will is not published.

Two more invariants of reachable worlds are used (Wasp/Proofs/BrokerT13.lean, `reachable_inv13`): every stored callback
is filed under a key of the in-flight table (so a free key has no stale callback), and on every node the session
records have pairwise different ids and were added before the crdt clock (so the tombstone written by a take-over is
not live, and `sessLookup` finds the record `sessByClientID` returned). A third one (Wasp/Proofs/BrokerT14.lean,
`reachable_not_deaf` below): the connection of every registered session is not listed in `World.deaf` (the connections
whose CONNECT was refused, which nobody reads), so the displaced session's PINGREQ IS read.
-/
namespace Wasp.Broker
open Wasp.Dist Wasp.Topic Wasp.Crdt Wasp.Broker.AgentT13

/-- QoS 2 PUBLISH: PUBREC, nothing else written, nothing stored in any log -/
theorem C05_e2e_qos2_publish (w : World) (hr : Reachable w) (i : Nat) (hi : i < w.nodes.length) (p : Sess)
    (hp : (w.node i).sess p.id = some p) (topic payload : String) (dup : Bool) (mid : Int) (hmid : mid ≠ 0)
    (hfree : Ack.msgFind (Ack.hashKey (p.id ++ "/in") mid) (w.node i).acks.msgs = none) :
    (w.process i p.id (.publish topic payload 2 false dup mid)).1.out = w.out ++ [(p.conn, Pkt.pubrec mid)] ∧
    ∀ j, ((w.process i p.id (.publish topic payload 2 false dup mid)).1.node j).log = (w.node j).log := by
  have _ := hr
  have _ := hi
  refine ⟨?_, fun j => C05_qos2_publish_forwards_nothing w i p.id topic payload false dup mid j⟩
  rw [process_publish2 w i p.id p hp topic payload false dup mid hmid hfree]
  rfl

/-- PUBLISH then PUBREL: the PUBREL runs the publish job in `W`, which is `w` with the PUBREC written and the handshake's
    entry inserted into and deleted from the in-flight table again -/
private theorem release_world (w : World) (hr : Reachable w) (hlen : w.nodes.length = 1) (p : Sess)
    (hp : (w.node 0).sess p.id = some p) (topic payload : String) (dup : Bool) (mid : Int) (hmid : mid ≠ 0)
    (hfree : Ack.msgFind (Ack.hashKey (p.id ++ "/in") mid) (w.node 0).acks.msgs = none) :
    ∃ (W : World) (T : Ack.PQ),
      ((w.process 0 p.id (.publish topic payload 2 false dup mid)).1.process 0 p.id (.pubrel mid)).1 =
        W.publishJob 0 ⟨prefixMountPoint p.mount topic, payload, 2, false, dup⟩ (fun x => x.emit p.conn (.pubcomp mid)) ∧
      W.node 0 = { w.node 0 with acks := { msgs := (w.node 0).acks.msgs, timeouts := T } } ∧
      W.nodes.length = 1 ∧ W.out = (w.process 0 p.id (.publish topic payload 2 false dup mid)).1.out := by
  have hi : 0 < w.nodes.length := by omega
  obtain ⟨T, hT⟩ := release_core w 0 hi p hp topic payload dup mid hmid hfree (reachable_stored_free w hr 0 _ hfree)
  refine ⟨_, T, hT, ?_, ?_, ?_⟩
  · rw [AgentD.node_emit, node_setNode_self _ _ _ hi]
  · simpa using hlen
  · rw [(C05_e2e_qos2_publish w hr 0 hi p hp topic payload dup mid hmid hfree).1]
    rfl

/-- PUBREL on one node with QoS 0 subscribers and an accepting log: the deliveries, then PUBCOMP; the handshake is closed.
    (`hsid` is not needed: with QoS 0 subscriptions nothing is armed under any key.) -/
theorem C05_e2e_qos2_release (w : World) (hr : Reachable w) (hlen : w.nodes.length = 1) (p : Sess)
    (hp : (w.node 0).sess p.id = some p) (hsid : ∀ s, p.id ≠ s ++ "/in")
    (topic payload : String) (dup : Bool) (mid : Int) (hmid : mid ≠ 0)
    (hfree : Ack.msgFind (Ack.hashKey (p.id ++ "/in") mid) (w.node 0).acks.msgs = none)
    (hq0 : ∀ kl ∈ (w.node 0).dist.subs, ∀ u ∈ kl.2, u.qos = 0)
    (hlog : (w.node 0).logFailAll = false ∧ (w.node 0).logFailAt.contains (w.node 0).logCalls = false) :
    let w1 := (w.process 0 p.id (.publish topic payload 2 false dup mid)).1
    let w2 := (w1.process 0 p.id (.pubrel mid)).1
    w2.out = w1.out ++ deliveries0 (w.node 0) (localRecipients w (prefixMountPoint p.mount topic))
                        ⟨prefixMountPoint p.mount topic, payload, 2, false, dup⟩ ++ [(p.conn, Pkt.pubcomp mid)] ∧
    Ack.msgFind (Ack.hashKey (p.id ++ "/in") mid) (w2.node 0).acks.msgs = none := by
  have _ := hsid
  dsimp only
  obtain ⟨W, T, hW, hnW, hlenW, houtW⟩ := release_world w hr hlen p hp topic payload dup mid hmid hfree
  have hq0W : ∀ kl ∈ (W.node 0).dist.subs, ∀ u ∈ kl.2, u.qos = 0 := by rw [hnW]; exact hq0
  have hpeerW : ∀ kl ∈ (W.node 0).dist.subs, ∀ u ∈ kl.2, u.peer = (W.node 0).peer := by
    rw [hnW]; exact reachable_subs_local w hr hlen
  have hlogW : (W.node 0).logFailAll = false ∧ (W.node 0).logFailAt.contains (W.node 0).logCalls = false := by
    rw [hnW]; exact hlog
  have e : retainStep W 0 ⟨prefixMountPoint p.mount topic, payload, 2, false, dup⟩ = W := rfl
  rw [hW, ← houtW, publishJob_eq, e, if_pos (distribute_one_true W hlenW _ hpeerW hlogW)]
  constructor
  · rw [AgentC.emit_out, AgentT6.distribute_single W hlenW _ hq0W hpeerW hlogW,
      AgentT6.deliveries0_congr (n := w.node 0) (AgentT6.CM.of_reg_eq (by rw [hnW])), hnW]
    rfl
  · rw [AgentC.emit_node]
    have hc := (distribute_one_core W hlenW ⟨prefixMountPoint p.mount topic, payload, 2, false, dup⟩ hq0W hpeerW hlogW).2 0
    rw [(AgentT3.pcore_eq hc).1, hnW]
    exact hfree

/-- PUBREL when the log rejects the message: nothing forwarded, no PUBCOMP. `hmatch` is needed (with no destination
    Distribute succeeds vacuously and PUBCOMP is written: second example at the end); `hsid` is not. -/
theorem C05_e2e_qos2_release_log_fails (w : World) (hr : Reachable w) (hlen : w.nodes.length = 1) (p : Sess)
    (hp : (w.node 0).sess p.id = some p) (hsid : ∀ s, p.id ≠ s ++ "/in")
    (topic payload : String) (dup : Bool) (mid : Int) (hmid : mid ≠ 0)
    (hfree : Ack.msgFind (Ack.hashKey (p.id ++ "/in") mid) (w.node 0).acks.msgs = none)
    (hmatch : localRecipients w (prefixMountPoint p.mount topic) ≠ [])
    (hlogfail : (w.node 0).logFailAll = true) :
    let w1 := (w.process 0 p.id (.publish topic payload 2 false dup mid)).1
    let w2 := (w1.process 0 p.id (.pubrel mid)).1
    w2.out = w1.out := by
  have _ := hsid
  dsimp only
  obtain ⟨W, T, hW, hnW, hlenW, houtW⟩ := release_world w hr hlen p hp topic payload dup mid hmid hfree
  have hpeerW : ∀ kl ∈ (W.node 0).dist.subs, ∀ u ∈ kl.2, u.peer = (W.node 0).peer := by
    rw [hnW]; exact reachable_subs_local w hr hlen
  have hne : subByPattern (W.node 0).dist (prefixMountPoint p.mount topic) ≠ [] := by
    rw [hnW]
    intro he
    apply hmatch
    simp [localRecipients, he]
  have e : retainStep W 0 ⟨prefixMountPoint p.mount topic, payload, 2, false, dup⟩ = W := rfl
  rw [hW, ← houtW, publishJob_eq, e,
    distribute_one_fail W hlenW ⟨prefixMountPoint p.mount topic, payload, 2, false, dup⟩ hpeerW hne (by rw [hnW]; exact hlogfail)]
  rfl

/-- a PUBREL with no open handshake (e.g. repeated) changes nothing -/
theorem C05_e2e_pubrel_unknown (w : World) (i : Nat) (hi : i < w.nodes.length) (p : Sess) (hp : (w.node i).sess p.id = some p)
    (mid : Int) (hnone : Ack.msgFind (Ack.hashKey (p.id ++ "/in") mid) (w.node i).acks.msgs = none) :
    (w.process i p.id (.pubrel mid)).1 = w := by
  rw [process_pubrel hp]
  dsimp only
  exact C05_pubrel_unknown w i p.id mid hnone hi
/-! ### C12: take-over on the same node

`applyOp … (.packet …)` drops packets on a connection listed in `World.deaf` (connections whose CONNECT was refused:
nobody reads them, `writable`). Neither connection of a take-over is listed there:
* the NEW connection `c`: the `.connect` operation opens a fresh connection under the name `c` and clears that name
  from `deaf` (a refusal on an older connection of the same name does not stick to the new one);
* the OLD connection `a.conn`: on every reachable world the connection of a registered session is not listed in `deaf`
  (`reachable_not_deaf`): a name enters `deaf` only when a CONNECT is refused, at which point no session is registered
  under it, and it leaves `deaf` when the name is re-used.
So no hypothesis about `deaf` is needed (an earlier version of the model never removed a name from `deaf`, and the
theorem carried `hdeafA : w.deaf.contains a.conn = false` and `hdeafC : w.deaf.contains c = false`; the two op
sequences that were counterexamples then are checked at the end of this file: the conclusions hold on them now).
`hf` is not needed. -/

/-- on every reachable world the connection of every registered session is not listed in `deaf` -/
theorem reachable_not_deaf (w : World) (hr : Reachable w) :
    ∀ i, ∀ s ∈ (w.node i).reg, w.deaf.contains s.conn = false :=
  AgentT14.reachable_dinv w hr

/-- the CONNECT: the identifier resolves to the new session only, which is registered and acknowledged; the old session
    is still registered -/
theorem C12_e2e_takeover_connect (w : World) (hr : Reachable w) (i : Nat) (hi : i < w.nodes.length)
    (a : Sess) (ha : (w.node i).sess a.id = some a)
    (mdA : SessionMD) (hcur : sessByClientID (w.node i).dist a.mount a.client = [mdA]) (hcurid : mdA.id = a.id)
    (c : String) (hc : w.conns.any (fun e => e.1 == c) = false)
    (hrec : ∀ s, sessLookup ("S" ++ c) (w.node i).dist.sessions = some s → isAdded s.stamp = false)
    (ka : Nat) (will : Option Will) :
    let w1 := applyOp w (.connect c i a.client a.mount true ka will)
    (∃ md, sessByClientID (w1.node i).dist a.mount a.client = [md] ∧ md.id = "S" ++ c) ∧
    ((w1.node i).sess ("S" ++ c)).isSome = true ∧ (c, Pkt.connack 0) ∈ w1.out ∧
    ((w1.node i).sess a.id).isSome = true := by
  intro w1
  have hT : TakenOver w w1 i a c ka will :=
    takeover_world w (reachable_inv w hr) (reachable_inv13 w hr) i hi a ha mdA hcur hcurid c hc hrec ka will
  refine ⟨hT.resolves, ?_, ?_, ?_⟩
  · have := AgentD.sess_append_isSome (w.node i) (AgentD.connSess w.now c a.client a.mount ka will)
    unfold Node.sess at this ⊢
    rw [hT.reg]
    exact this
  · rw [hT.out]; simp
  · have := sess_append_old (w.node i) (AgentD.connSess w.now c a.client a.mount ka will) a.id a ha
    unfold Node.sess at this ⊢
    rw [hT.reg, this]
    rfl

/-- the displaced session's next PINGREQ ends it: it is unregistered, exactly `closed` is written, no log changes -/
theorem C12_e2e_takeover_old_ends (w : World) (hr : Reachable w) (i : Nat) (hi : i < w.nodes.length)
    (a : Sess) (ha : (w.node i).sess a.id = some a)
    (mdA : SessionMD) (hcur : sessByClientID (w.node i).dist a.mount a.client = [mdA]) (hcurid : mdA.id = a.id)
    (c : String) (hc : w.conns.any (fun e => e.1 == c) = false)
    (hrec : ∀ s, sessLookup ("S" ++ c) (w.node i).dist.sessions = some s → isAdded s.stamp = false)
    (ka : Nat) (will : Option Will) :
    let w1 := applyOp w (.connect c i a.client a.mount true ka will)
    let w2 := applyOp w1 (.packet a.conn .pingreq)
    (w2.node i).sess a.id = none ∧ w2.out = w1.out ++ [(a.conn, Pkt.closed)] ∧ ∀ j, (w2.node j).log = (w1.node j).log := by
  intro w1 w2
  have hT : TakenOver w w1 i a c ka will :=
    takeover_world w (reachable_inv w hr) (reachable_inv13 w hr) i hi a ha mdA hcur hcurid c hc hrec ka will
  exact takeover_old_ends hT hi ha (reachable_not_deaf w hr i a (sess_some ha).1)

/-- the new session's PINGREQ is answered -/
theorem C12_e2e_takeover_new_answered (w : World) (hr : Reachable w) (i : Nat) (hi : i < w.nodes.length)
    (a : Sess) (ha : (w.node i).sess a.id = some a)
    (mdA : SessionMD) (hcur : sessByClientID (w.node i).dist a.mount a.client = [mdA]) (hcurid : mdA.id = a.id)
    (c : String) (hc : w.conns.any (fun e => e.1 == c) = false) (hcs : (w.node i).sess ("S" ++ c) = none)
    (hrec : ∀ s, sessLookup ("S" ++ c) (w.node i).dist.sessions = some s → isAdded s.stamp = false)
    (ka : Nat) (will : Option Will) :
    let w1 := applyOp w (.connect c i a.client a.mount true ka will)
    (applyOp w1 (.packet c .pingreq)).out = w1.out ++ [(c, Pkt.pingresp)] := by
  intro w1
  have hT : TakenOver w w1 i a c ka will :=
    takeover_world w (reachable_inv w hr) (reachable_inv13 w hr) i hi a ha mdA hcur hcurid c hc hrec ka will
  exact takeover_new_answered hT hcs

/-- C12: take-over on the same node (no hypothesis about `deaf`, see above) -/
theorem C12_e2e_takeover (w : World) (hr : Reachable w) (i : Nat) (hi : i < w.nodes.length) (hf : (w.node i).failed = false)
    (a : Sess) (ha : (w.node i).sess a.id = some a)
    (mdA : SessionMD) (hcur : sessByClientID (w.node i).dist a.mount a.client = [mdA]) (hcurid : mdA.id = a.id)
    (c : String) (hc : w.conns.any (fun e => e.1 == c) = false) (hcs : (w.node i).sess ("S" ++ c) = none)
    (hrec : ∀ s, sessLookup ("S" ++ c) (w.node i).dist.sessions = some s → isAdded s.stamp = false)
    (ka : Nat) (will : Option Will) :
    let w1 := applyOp w (.connect c i a.client a.mount true ka will)
    -- the identifier resolves to the new session only, which is registered and acknowledged
    (∃ md, sessByClientID (w1.node i).dist a.mount a.client = [md] ∧ md.id = "S" ++ c) ∧
    ((w1.node i).sess ("S" ++ c)).isSome = true ∧ (c, Pkt.connack 0) ∈ w1.out ∧
    -- the old session is still registered until its next keep-alive exchange …
    ((w1.node i).sess a.id).isSome = true ∧
    -- … which ends it: closed, no PINGRESP, no will in any log
    (let w2 := applyOp w1 (.packet a.conn .pingreq)
     (w2.node i).sess a.id = none ∧ (a.conn, Pkt.closed) ∈ w2.out.drop w1.out.length ∧
     (a.conn, Pkt.pingresp) ∉ w2.out.drop w1.out.length ∧ ∀ j, (w2.node j).log = (w1.node j).log) ∧
    -- the new session's keep-alive exchange is answered
    (c, Pkt.pingresp) ∈ (applyOp w1 (.packet c .pingreq)).out.drop w1.out.length := by
  have _ := hf
  intro w1
  obtain ⟨h1, h2, h3, h4⟩ := C12_e2e_takeover_connect w hr i hi a ha mdA hcur hcurid c hc hrec ka will
  obtain ⟨h5, h6, h7⟩ := C12_e2e_takeover_old_ends w hr i hi a ha mdA hcur hcurid c hc hrec ka will
  have h8 := C12_e2e_takeover_new_answered w hr i hi a ha mdA hcur hcurid c hc hcs hrec ka will
  refine ⟨h1, h2, h3, h4, ⟨h5, ?_, ?_, h7⟩, ?_⟩
  · rw [AgentT6.drop_out _ _ _ h6]; simp
  · rw [AgentT6.drop_out _ _ _ h6]; simp
  · rw [AgentT6.drop_out _ _ _ h8]; simp

/-! ### the hypotheses can be met; refused and re-used connection names -/

/-- "p" and "s" connect to a one-node cluster, "s" subscribes to "t" with QoS 0 -/
def C05E2E_ops : List BOp :=
  [.connect "p" 0 "idp" "m" true 60 none, .connect "s" 0 "ids" "m" true 60 none, .packet "s" (.subscribe 1 [("t", 0)])]

def C05E2E_world : World := run (World.init 1) C05E2E_ops

theorem C05E2E_world_reachable : Reachable C05E2E_world := ⟨1, C05E2E_ops, rfl⟩

/-- the hypotheses of the four C05 theorems hold in `C05E2E_world` (publisher "Sp", topic "t", identifier 5), and the
    packets are the ones the theorems say: PUBREC; then the delivery and PUBCOMP; a repeated PUBREL writes nothing -/
example :
    let w := C05E2E_world
    let w1 := (w.process 0 "Sp" (.publish "t" "pl" 2 false true 5)).1
    let w2 := (w1.process 0 "Sp" (.pubrel 5)).1
    let w3 := (w2.process 0 "Sp" (.pubrel 5)).1
    w.nodes.length = 1 ∧ ((w.node 0).sess "Sp").map (fun s => (s.id, s.conn, s.mount)) = some ("Sp", "p", "m") ∧
    Ack.msgFind (Ack.hashKey ("Sp" ++ "/in") 5) (w.node 0).acks.msgs = none ∧
    (∀ kl ∈ (w.node 0).dist.subs, ∀ u ∈ kl.2, u.qos = 0) ∧
    (w.node 0).logFailAll = false ∧ (w.node 0).logFailAt = [] ∧
    localRecipients w (prefixMountPoint "m" "t") = [("Ss", 0)] ∧
    w1.out = w.out ++ [("p", Pkt.pubrec 5)] ∧
    w2.out = w1.out ++ [("s", Pkt.publish "t" "pl" 0 false true 0), ("p", Pkt.pubcomp 5)] ∧
    w3.out = w2.out := by
  decide +kernel

/-- the log rejects: with a matching subscriber (`hmatch`) the PUBREL is not answered; with none, Distribute succeeds
    vacuously and PUBCOMP IS written — `hmatch` cannot be dropped from `C05_e2e_qos2_release_log_fails` -/
example :
    let w := applyOp C05E2E_world (.logFailAll 0 true)
    let w1 := (w.process 0 "Sp" (.publish "t" "pl" 2 false false 5)).1
    let v1 := (w.process 0 "Sp" (.publish "nobody" "pl" 2 false false 6)).1
    (w.node 0).logFailAll = true ∧
    (w1.process 0 "Sp" (.pubrel 5)).1.out = w1.out ∧
    localRecipients w (prefixMountPoint "m" "nobody") = [] ∧
    (v1.process 0 "Sp" (.pubrel 6)).1.out = v1.out ++ [("p", Pkt.pubcomp 6)] := by
  decide +kernel

/-- "s" subscribes to the will topic of "x"; "x" connects with client id "cl" and a will -/
def C12E2E_ops : List BOp :=
  [.connect "s" 0 "ids" "m" true 60 none, .packet "s" (.subscribe 1 [("wt", 0)]),
   .connect "x" 0 "cl" "m" true 30 (some ⟨"wt", "bye", 0, false⟩)]

def C12E2E_world : World := run (World.init 1) C12E2E_ops

theorem C12E2E_world_reachable : Reachable C12E2E_world := ⟨1, C12E2E_ops, rfl⟩

/-- the hypotheses of `C12_e2e_takeover` hold in `C12E2E_world` (i = 0, a = session "Sx", c = "y"), and what happens
    is what the theorem says — in particular the subscriber of the will topic gets nothing -/
example :
    let w := C12E2E_world
    let w1 := applyOp w (.connect "y" 0 "cl" "m" true 30 none)
    let w2 := applyOp w1 (.packet "x" .pingreq)
    (w.node 0).failed = false ∧
    ((w.node 0).sess "Sx").map (fun s => (s.id, s.conn, s.client, s.mount)) = some ("Sx", "x", "cl", "m") ∧
    (sessByClientID (w.node 0).dist "m" "cl").map (·.id) = ["Sx"] ∧
    w.conns.any (fun e => e.1 == "y") = false ∧ ((w.node 0).sess "Sy").isNone = true ∧
    sessLookup "Sy" (w.node 0).dist.sessions = none ∧ w.deaf = [] ∧
    (sessByClientID (w1.node 0).dist "m" "cl").map (·.id) = ["Sy"] ∧
    w1.out.drop w.out.length = [("y", Pkt.connack 0)] ∧
    ((w1.node 0).sess "Sx").isSome = true ∧
    ((w2.node 0).sess "Sx").isNone = true ∧ w2.out.drop w1.out.length = [("x", Pkt.closed)] ∧
    (w2.node 0).log = (w1.node 0).log ∧
    (applyOp w1 (.packet "y" .pingreq)).out.drop w1.out.length = [("y", Pkt.pingresp)] := by
  decide +kernel

/-- connection "x" is refused once (wrong password) and accepted on the second CONNECT: the second `.connect "x"` is a
    fresh connection, its name is cleared from `deaf` (before the model did that, the name stayed listed and this
    world was a counterexample to the take-over statement: the PINGREQ on "x" was not read). All hypotheses of
    `C12_e2e_takeover` hold (i = 0, a = session "Sx", c = "y"), "x" is not listed in `deaf`, and after the take-over the
    PINGREQ on "x" ends the old session -/
def C12E2E_refusedOld_ops : List BOp :=
  [.connect "x" 0 "cl" "m" false 30 none, .connect "x" 0 "cl" "m" true 30 none]

def C12E2E_refusedOld : World := run (World.init 1) C12E2E_refusedOld_ops

theorem C12E2E_refusedOld_reachable : Reachable C12E2E_refusedOld := ⟨1, C12E2E_refusedOld_ops, rfl⟩

example :
    let w0 := applyOp (World.init 1) (.connect "x" 0 "cl" "m" false 30 none)
    let w := C12E2E_refusedOld
    let w1 := applyOp w (.connect "y" 0 "cl" "m" true 30 none)
    let w2 := applyOp w1 (.packet "x" .pingreq)
    w0.deaf.contains "x" = true ∧
    0 < w.nodes.length ∧ (w.node 0).failed = false ∧
    ((w.node 0).sess "Sx").map (fun s => (s.id, s.conn, s.client, s.mount)) = some ("Sx", "x", "cl", "m") ∧
    (sessByClientID (w.node 0).dist "m" "cl").map (·.id) = ["Sx"] ∧
    w.conns.any (fun e => e.1 == "y") = false ∧ ((w.node 0).sess "Sy").isNone = true ∧
    sessLookup "Sy" (w.node 0).dist.sessions = none ∧
    w.deaf.contains "x" = false ∧
    ((w1.node 0).sess "Sx").isSome = true ∧
    ((w2.node 0).sess "Sx").isNone = true ∧ w2.out.drop w1.out.length = [("x", Pkt.closed)] ∧
    (w2.node 0).log = (w1.node 0).log := by
  decide +kernel

/-- connection "y" was refused and closed by the client before; its name is still listed in `deaf` when the second
    connection "y" arrives, and the `.connect "y"` operation clears it (before the model did that, this world was a
    counterexample: the new session's PINGREQ was not read). All hypotheses of `C12_e2e_takeover` hold (a = session
    "Sx", c = "y"), the take-over succeeds and the new session's PINGREQ is answered -/
def C12E2E_refusedNew_ops : List BOp :=
  [.connect "x" 0 "cl" "m" true 30 none, .connect "y" 0 "zz" "m" false 30 none, .drop "y"]

def C12E2E_refusedNew : World := run (World.init 1) C12E2E_refusedNew_ops

theorem C12E2E_refusedNew_reachable : Reachable C12E2E_refusedNew := ⟨1, C12E2E_refusedNew_ops, rfl⟩

example :
    let w := C12E2E_refusedNew
    let w1 := applyOp w (.connect "y" 0 "cl" "m" true 30 none)
    let w2 := applyOp w1 (.packet "x" .pingreq)
    0 < w.nodes.length ∧ (w.node 0).failed = false ∧
    ((w.node 0).sess "Sx").map (fun s => (s.id, s.conn, s.client, s.mount)) = some ("Sx", "x", "cl", "m") ∧
    (sessByClientID (w.node 0).dist "m" "cl").map (·.id) = ["Sx"] ∧
    w.conns.any (fun e => e.1 == "y") = false ∧ ((w.node 0).sess "Sy").isNone = true ∧
    sessLookup "Sy" (w.node 0).dist.sessions = none ∧
    w.deaf.contains "x" = false ∧ w.deaf.contains "y" = true ∧ w1.deaf.contains "y" = false ∧
    (sessByClientID (w1.node 0).dist "m" "cl").map (·.id) = ["Sy"] ∧
    ((w2.node 0).sess "Sx").isNone = true ∧ w2.out.drop w1.out.length = [("x", Pkt.closed)] ∧
    (applyOp w1 (.packet "y" .pingreq)).out.drop w1.out.length = [("y", Pkt.pingresp)] := by
  decide +kernel

end Wasp.Broker
