import Wasp.Model.AnswerLost
import Wasp.Properties.Reachable
/-!
# Failed answers (C11, C13, C18): what the broker's state is after it could not answer

`packetOnBrokenConn` is by definition one or two harness operations, so every reachable-world invariant carries over
(`answerLost_reachable`); and when the answer was lost nothing stays registered on the connection
(`answerLost_session_gone`) — with `C11_teardown_subscriptions_reachable` and the will theorems of `applyOp (.drop c)`
this is the whole end of a session.
-/
namespace Wasp.Broker
open Wasp.Broker.AgentT5

theorem run_snoc (w : World) (ops : List BOp) (op : BOp) : run w (ops ++ [op]) = applyOp (run w ops) op := by
  simp [run, List.foldl_append]

theorem reachable_step (w : World) (h : Reachable w) (op : BOp) : Reachable (applyOp w op) := by
  obtain ⟨n, ops, rfl⟩ := h
  exact ⟨n, ops ++ [op], (run_snoc _ ops op).symm⟩

/-- a packet on a broken connection leads from reachable worlds to reachable worlds: every invariant of
    `Properties/Reachable.lean` and `Properties/Reachable2.lean` holds afterwards -/
theorem answerLost_reachable (w : World) (h : Reachable w) (c : String) (pkt : CPkt) :
    Reachable (packetOnBrokenConn w c pkt) := by
  unfold packetOnBrokenConn
  split
  · exact reachable_step _ (reachable_step _ h _) _
  · exact reachable_step _ h _

theorem answerLost_inv (w : World) (h : Reachable w) (c : String) (pkt : CPkt) :
    GlobalInv (packetOnBrokenConn w c pkt) := reachable_inv _ (answerLost_reachable w h c pkt)

/-- when the answer could not be written no session stays registered on that connection, on any node -/
theorem answerLost_session_gone (w : World) (h : Reachable w) (c : String) (pkt : CPkt)
    (hl : answerLost w c pkt = true) :
    ∀ j, ∀ s ∈ ((packetOnBrokenConn w c pkt).node j).reg, s.conn ≠ c := by
  unfold packetOnBrokenConn
  rw [if_pos hl]
  have hgi : GI (applyOp w (.packet c pkt)) := (globalInv_iff _).mp (reachable_inv _ (reachable_step _ h _))
  exact (gi_closeFromClient hgi c).2

/-- when no direct answer is due (QoS 0/1 PUBLISH, acknowledgements, DISCONNECT) the packet is processed as on a healthy
    connection -/
theorem answerKept (w : World) (c : String) (pkt : CPkt) (hl : answerLost w c pkt = false) :
    packetOnBrokenConn w c pkt = applyOp w (.packet c pkt) := by
  unfold packetOnBrokenConn
  rw [if_neg (by simp [hl])]

/-- non-vacuity: a SUBSCRIBE of a connected client draws a SUBACK, and the session is gone afterwards -/
example :
    let w := run (World.init 1) [.connect "a" 0 "ca" "m" true 60 none]
    answerLost w "a" (.subscribe 1 [("t", 1)]) = true ∧
    ((packetOnBrokenConn w "a" (.subscribe 1 [("t", 1)])).node 0).reg = [] := by decide +kernel

end Wasp.Broker
