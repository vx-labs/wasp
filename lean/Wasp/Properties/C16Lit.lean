import Wasp.Properties.C16
import Wasp.Proofs.AuthLit
/-!
# C16 — the credential stores AS WRITTEN are the stores the theorems are about

`Wasp.Generated.AuthLit.fileAuthenticate / staticAuthenticate / fileHandlerLoad / staticHandlerNew` are regenerated
from `wasp/auth/file.go` and `wasp/auth/static.go` on every run by the extractor's imperative translator
(extract/imperative.go): Go strings as Lean `String`s (`>=` as `Go.strGe`), `sort.Search` as Go's literal binary
search, the scan loop with fuel `len(h.db) + 1`, every index guarded (`none` = the Go code would panic),
`fingerprintBytes` (hex SHA-256) as a parameter `B`, `fingerprintString` inlined from hash.go, `Principal.ID`
(`randomID()`) left out, `FileHandler` from the parsed csv records on (record-building loop, `sort.SliceStable` with
`searchHelper`, the returned handler). The theorems below say that the code as written never panics and answers what
the hand-written model `Wasp.Auth.authenticate / staticAuthenticate / load` answers, for EVERY table and EVERY input
— so C16's theorems (stated on the model) are theorems about the code that is in the tree NOW. A change of
`file.go` / `static.go` / `hash.go` / the constants of `types.go` changes the generated definitions; if it changes
their meaning these proofs fail.

`H` below is the fingerprint of a string: `fingerprintString s = fingerprintBytes([]byte(s))`.
-/
namespace Wasp.Auth
open Wasp.Auth.Lit Wasp.Generated.AuthLit

def hashOf (B : Go.Bytes → String) : String → String := fun s => B (Go.bytesOfString s)

/-- (*fileHandler).Authenticate as written = the model, on every table (no sortedness needed) -/
theorem C16_code_file_authenticate_is_model (B : Go.Bytes → String) (db : List Record) (user pass : String) :
    fileAuthenticate B (handlerOf db) ⟨Go.bytesOfString user, Go.bytesOfString pass⟩
      = some (handlerOf db, fileAnswer (authenticate (hashOf B) db user pass)) :=
  fileAuthenticateLit_eq B (hashOf B) db user pass _ _ rfl rfl

/-- the same for arbitrary byte strings (an MQTT password need not be UTF-8): only their fingerprints matter -/
theorem C16_code_file_authenticate_is_model_bytes (B : Go.Bytes → String) (H : String → String) (db : List Record)
    (user pass : String) (ub pb : Go.Bytes) (hu : B ub = H user) (hp : B pb = H pass) :
    fileAuthenticate B (handlerOf db) ⟨ub, pb⟩ = some (handlerOf db, fileAnswer (authenticate H db user pass)) :=
  fileAuthenticateLit_eq B H db user pass ub pb hu hp

/-- FileHandler as written (from the parsed records on) builds the handler holding the model's `load` -/
theorem C16_code_loader_is_model (B : Go.Bytes → String) (records : List (List String)) :
    fileHandlerLoad B records = some (handlerOf (load (hashOf B) records), Go.Error.nil) :=
  fileHandlerLoadLit_eq B records

/-- (*staticHandler).Authenticate as written = the model -/
theorem C16_code_static_authenticate_is_model (B : Go.Bytes → String) (cu cp user pass : String) :
    Wasp.Generated.AuthLit.staticAuthenticate B ⟨hashOf B cu, hashOf B cp⟩ ⟨Go.bytesOfString user, Go.bytesOfString pass⟩
      = some (⟨hashOf B cu, hashOf B cp⟩, staticAnswer (Wasp.Auth.staticAuthenticate (hashOf B) cu cp user pass)) :=
  staticAuthenticateLit_eq B (hashOf B) cu cp user pass _ _ rfl rfl

/-- StaticHandler as written builds the handler holding the two fingerprints -/
theorem C16_code_static_new_is_model (B : Go.Bytes → String) (cu cp : String) :
    staticHandlerNew B cu cp = some (⟨hashOf B cu, hashOf B cp⟩, Go.Error.nil) :=
  staticHandlerNewLit_eq B cu cp

/-- load the file with the code as written, then ask the code as written; a caller looks at the error first -/
def codeFileAsk (B : Go.Bytes → String) (records : List (List String)) (user pass : String) : Option (Option String) :=
  ((fileHandlerLoad B records).bind fun hr =>
    fileAuthenticate B hr.1 ⟨Go.bytesOfString user, Go.bytesOfString pass⟩).map fun r => verdict r.2

def codeStaticAsk (B : Go.Bytes → String) (cu cp user pass : String) : Option (Option String) :=
  ((staticHandlerNew B cu cp).bind fun hr =>
    Wasp.Generated.AuthLit.staticAuthenticate B hr.1 ⟨Go.bytesOfString user, Go.bytesOfString pass⟩).map fun r => verdict r.2

/-- no panic, and the model's verdict -/
theorem C16_code_file_ask (B : Go.Bytes → String) (records : List (List String)) (user pass : String) :
    codeFileAsk B records user pass = some (authenticate (hashOf B) (load (hashOf B) records) user pass) := by
  simp only [codeFileAsk, C16_code_loader_is_model, Option.bind_some, C16_code_file_authenticate_is_model,
    Option.map_some, verdict_fileAnswer]

theorem C16_code_static_ask (B : Go.Bytes → String) (cu cp user pass : String) :
    codeStaticAsk B cu cp user pass = some (Wasp.Auth.staticAuthenticate (hashOf B) cu cp user pass) := by
  simp only [codeStaticAsk, C16_code_static_new_is_model, Option.bind_some, C16_code_static_authenticate_is_model,
    Option.map_some, verdict_staticAnswer]

/-- C16 on the code as written: the file store accepts exactly the candidates that match a configured line -/
theorem C16_code_file_iff (B : Go.Bytes → String) (records : List (List String)) (user pass : String) :
    (∃ m, codeFileAsk B records user pass = some (some m)) ↔ (∃ m, credMatch (hashOf B) records user pass m) := by
  rw [C16_code_file_ask, ← C16_file_iff]
  constructor
  · rintro ⟨m, h⟩; exact ⟨m, Option.some.inj h⟩
  · rintro ⟨m, h⟩; exact ⟨m, congrArg some h⟩

/-- C16 on the code as written: the static store accepts exactly the configured pair (fingerprint injective) -/
theorem C16_code_static_iff (B : Go.Bytes → String) (hinj : ∀ a b, hashOf B a = hashOf B b → a = b)
    (cu cp user pass : String) :
    codeStaticAsk B cu cp user pass = some (some defaultMountPoint) ↔ (user = cu ∧ pass = cp) := by
  rw [C16_code_static_ask, ← C16_static_iff (hashOf B) hinj cu cp user pass]
  constructor
  · intro h; exact Option.some.inj h
  · intro h; exact congrArg some h

end Wasp.Auth
