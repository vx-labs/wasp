import Wasp.Properties.Reachable2
import Wasp.Properties.E2E
import Wasp.Properties.C14
import Wasp.Proofs.BrokerT9
/-!
# C01 / C14 end to end on a converged multi-node cluster

`Converged w`: every node lists the same live subscriptions for every topic (what C08/C09/C10 establish once the
broadcasts are delivered). On a reachable converged world with QoS 0 subscriptions, a QoS 0 publish accepted by
node i is written exactly to the registered sessions of the live matching subscriptions, each on the node the
subscription names — provided that node is reachable from i and its log accepts the message — and to nobody else.
-/
namespace Wasp.Broker
open Wasp.Dist Wasp.Topic Wasp.Crdt Wasp.Broker.AgentT9

/-- every node resolves every topic to the same live subscriptions -/
def Converged (w : World) : Prop :=
  ∀ i j, i < w.nodes.length → j < w.nodes.length → ∀ topic u,
    u ∈ subByPattern (w.node i).dist topic ↔ u ∈ subByPattern (w.node j).dist topic

/-- C01/C14 end to end: who is written to (membership; a subscriber with several matching filters is written once per filter) -/
theorem C01_e2e_multi (w : World) (hr : Reachable w) (hc : Converged w) (i : Nat) (hi : i < w.nodes.length)
    (sid : String) (s : Sess) (hs : (w.node i).sess sid = some s) (topic payload : String) (dup : Bool) (mid : Int)
    (hq0 : ∀ k, ∀ kl ∈ (w.node k).dist.subs, ∀ u ∈ kl.2, u.qos = 0)
    (c : String) (pk : Pkt) :
    (c, pk) ∈ ((w.process i sid (.publish topic payload 0 false dup mid)).1.out.drop w.out.length) ↔
      ∃ u ∈ subByPattern (w.node i).dist (prefixMountPoint s.mount topic),
        ∃ j, j < w.nodes.length ∧ (w.node j).peer = u.peer ∧ reachableFrom w i j = true ∧ logAccepts (w.node j) = true ∧
        ∃ r, (w.node j).sess u.session = some r ∧ r.conn = c ∧
          pk = Pkt.publish (trimMountPoint r.mount (prefixMountPoint s.mount topic)) payload 0 false dup 0 := by
  have hinv := reachable_inv2 w hr
  have hp : PeersStd w := hinv.peers
  have hq : ∀ m, Q0 (w.node m) := fun m => hq0 m
  rw [AgentT6.process_publish0 w i sid s hs,
    AgentT6.drop_out _ _ _ (distribute_out w i ⟨prefixMountPoint s.mount topic, payload, 0, false, dup⟩ hp hq)]
  simp only [List.mem_flatMap, AgentB.mem_dedupNat, List.mem_map, mem_peerOut, AgentT6.mem_deliveries0]
  constructor
  · rintro ⟨x, ⟨u0, hu0, hx⟩, j, hjx, hj, hreach, hacc, xr, hxr, r, hsess, hconn, hpk⟩
    obtain ⟨u, hu, rfl⟩ := List.mem_map.1 hxr
    obtain ⟨hu1, hu2⟩ := List.mem_filter.1 hu
    have hu2' : u.peer = (w.node j).peer := by simpa using hu2
    exact ⟨u, (hc i j hi hj _ u).2 hu1, j, hj, hu2'.symm, hreach, hacc, r, hsess, hconn, hpk⟩
  · rintro ⟨u, hu, j, hj, hpeer, hreach, hacc, r, hsess, hconn, hpk⟩
    refine ⟨u.peer, ⟨u, hu, rfl⟩, j, ?_, hj, hreach, hacc, (u.session, u.qos), ?_, r, hsess, hconn, hpk⟩
    · rw [← hpeer, hp j hj]
    · refine List.mem_map.2 ⟨u, List.mem_filter.2 ⟨(hc i j hi hj _ u).1 hu, ?_⟩, rfl⟩
      simpa using hpeer.symm

/-- non-vacuity: publisher on node 0, subscribers on nodes 0 and 1, gossip delivered -/
example :
    let w0 := (((World.init 2).connect "p" 0 "idp" "mp" true 60 none).connect "a" 0 "ida" "mp" true 60 none).connect "b" 1 "idb" "mp" true 60 none
    let w1 := ((w0.clientPacket "a" (.subscribe 1 [("x/#", 0)])).clientPacket "b" (.subscribe 2 [("+/z", 0)])).gossipAll
    let w2 := { w1 with out := [] }
    (w2.clientPacket "p" (.publish "x/z" "01" 0 false false 0)).out =
      [("a", Pkt.publish "x/z" "01" 0 false false 0), ("b", Pkt.publish "x/z" "01" 0 false false 0)] := by
  decide +kernel

end Wasp.Broker
