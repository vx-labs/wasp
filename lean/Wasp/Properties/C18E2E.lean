import Wasp.Properties.C18
import Wasp.Properties.Reachable2
import Wasp.Properties.E2E
import Wasp.Properties.AnswerLost
import Wasp.Proofs.BrokerT11
/-!
# C18 end to end — whatever one connection sends, the others keep being served

`C18_confined_*` say that bytes on connection `h` close no other connection and end no other session. This file adds
the "keeps being served" half on the level of packets: after ANY byte string on `h` (malformed, truncated, panicking
the decoder, a second CONNECT, …) a bystander's registered session is still registered with the same connection and
mount point, its live subscriptions are still stored, and a publish by another bystander is still written to it.
-/
namespace Wasp.Broker
open Wasp.Dist Wasp.Topic Wasp.Crdt Wasp.Wire Wasp.Broker.AgentT11

/-- bytes on connection `h` leave every other registered session as it was, up to its keep-alive deadline -/
theorem C18_bystander_session_kept (w : World) (hr : Reachable w) (h : String) (b : Wire.Bytes) (i : Nat) (r : Sess)
    (hreg : (w.node i).sess r.id = some r) (hne : r.id ≠ "S" ++ h) :
    ∃ r', ((rawBytes w h b).1.node i).sess r.id = some r' ∧ r'.conn = r.conn ∧ r'.mount = r.mount ∧ r'.id = r.id := by
  have _ := hr
  exact stay_session (st_rawBytes w h b) i r hreg hne

/-- bytes on connection `h` leave every live subscription of every OTHER session stored and live -/
theorem C18_bystander_subscription_kept (w : World) (hr : Reachable w) (h : String) (b : Wire.Bytes) (i : Nat)
    (kl : String × List Sub) (hkl : kl ∈ (w.node i).dist.subs) (u : Sub) (hu : u ∈ kl.2) (hlive : isAdded u.stamp = true)
    (hne : u.session ≠ "S" ++ h) :
    ∃ kl' ∈ ((rawBytes w h b).1.node i).dist.subs, kl'.1 = kl.1 ∧ ∃ u' ∈ kl'.2, u'.session = u.session ∧ u'.qos = u.qos ∧
      u'.peer = u.peer ∧ isAdded u'.stamp = true := by
  have _ := hr
  obtain ⟨kl', hkl', hk, hu'⟩ := ((st_rawBytes w h b).node i).subs kl hkl u hu hne
  exact ⟨kl', hkl', hk, u, hu', rfl, rfl, rfl, hlive⟩

/-- C18 end to end (one node): after any byte string on `h`, a QoS 0 publish by bystander `p` on a topic that
    bystander `r` has a live QoS 0 subscription for (same mount point) is written to `r`'s connection -/
theorem C18_e2e_witness_served (w : World) (hr : Reachable w) (hlen : w.nodes.length = 1) (h : String) (b : Wire.Bytes)
    (p r : Sess) (hp : (w.node 0).sess p.id = some p) (hrr : (w.node 0).sess r.id = some r)
    (hph : p.id ≠ "S" ++ h) (hrh : r.id ≠ "S" ++ h)
    (kl : String × List Sub) (hkl : kl ∈ (w.node 0).dist.subs) (u : Sub) (hu : u ∈ kl.2) (hlive : isAdded u.stamp = true)
    (hus : u.session = r.id) (topic payload : String) (dup : Bool) (mid : Int)
    (hmatch : mqttMatch (levels kl.1) (levels (prefixMountPoint p.mount topic)) = true)
    (hq0 : ∀ kl ∈ ((rawBytes w h b).1.node 0).dist.subs, ∀ u ∈ kl.2, u.qos = 0)
    (hlog : ((rawBytes w h b).1.node 0).logFailAll = false ∧
            ((rawBytes w h b).1.node 0).logFailAt.contains ((rawBytes w h b).1.node 0).logCalls = false) :
    (r.conn, Pkt.publish (trimMountPoint r.mount (prefixMountPoint p.mount topic)) payload 0 false dup 0) ∈
      (((rawBytes w h b).1).process 0 p.id (.publish topic payload 0 false dup mid)).1.out := by
  have hst := st_rawBytes w h b
  have hr' : Reachable (rawBytes w h b).1 := reachable_step w hr (.raw h b)
  generalize (rawBytes w h b).1 = w' at hst hr' hq0 hlog ⊢
  obtain ⟨p', hp', -, hpm, -⟩ := stay_session hst 0 p hp hph
  obtain ⟨r', hr1, hrc, hrm, -⟩ := stay_session hst 0 r hrr hrh
  obtain ⟨kl', hkl', hk, hu'⟩ := (hst.node 0).subs kl hkl u hu (by rw [hus]; exact hrh)
  apply List.mem_of_mem_drop (i := w'.out.length)
  rw [C01_e2e_exact_reachable w' hr' (hst.len.trans hlen) p.id p' hp' topic payload dup mid hq0 hlog]
  refine ⟨kl', hkl', u, hu', ?_, hlive, r', ?_, hrc, ?_⟩
  · rw [hk, hpm]; exact hmatch
  · rw [hus]; exact hr1
  · rw [hrm, hpm]

/-- non-vacuity, and the hardest case for the three statements: `h` sends a CONNECT carrying bystander `r`'s client id
    and mount point (with a will), then garbage. The CONNECT displaces `r`'s session RECORD (`dist.sessions`: "Sr" is
    tombstoned — `r`'s next PINGREQ will end it; none of the statements above is about the record), but `r`'s
    registration and subscription stay, `h`'s will is delivered to `r`, and `p`'s publish is still written to `r`. -/
example :
    let w := ((World.init 1).connect "p" 0 "idp" "mp" true 60 none).connect "r" 0 "idr" "mp" true 60 none
    let w0 := openConn (w.clientPacket "r" (.subscribe 1 [("x/#", 0)])) "h" 0
    let w1 := (rawBytes w0 "h" [16, 35, 0, 4, 77, 81, 84, 84, 4, 196, 0, 60, 0, 3, 105, 100, 114, 0, 6, 120, 47, 119, 105,
      108, 108, 0, 2, 122, 122, 0, 2, 109, 112, 0, 2, 111, 107]).1
    let w2 := (rawBytes w1 "h" [0xF0, 0x00]).1
    (w1.node 0).dist.sessions.map (fun s => (s.id, isAdded s.stamp)) = [("Sp", true), ("Sr", false), ("Sh", true)] ∧
    (w2.node 0).reg.map (fun s => (s.id, s.conn, s.mount)) = [("Sp", "p", "mp"), ("Sr", "r", "mp")] ∧
    w2.out.drop w0.out.length =
      [("h", Pkt.connack 0), ("h", Pkt.closed), ("r", Pkt.publish "x/will" "7a7a" 0 false false 0)] ∧
    (w2.process 0 "Sp" (.publish "x/y" "01" 0 false false 0)).1.out.drop w2.out.length =
      [("r", Pkt.publish "x/y" "01" 0 false false 0)] := by
  decide +kernel

end Wasp.Broker
