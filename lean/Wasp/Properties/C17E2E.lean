import Wasp.Properties.Reachable2
import Wasp.Properties.C17
import Wasp.Proofs.BrokerT8
/-!
# C17 end to end — tenants are isolated in the packets clients see

On every reachable one-node world (that has not failed) the live subscriptions stored for a registered session lie
inside that session's mount point (`SubSessInv`). Composed with `C01_e2e_exact_reachable` and `C17_no_cross_match`:
every PUBLISH the broker writes for a publish made in mount point M goes to a session of mount point M and carries
exactly the topic name the publisher used.
-/
namespace Wasp.Broker
open Wasp.Dist Wasp.Topic Wasp.Crdt Wasp.Broker.AgentT8

/-! `SubSessInv` (live subscriptions of registered sessions are stored under a filter inside the session's mount point)
    is defined in Wasp/Proofs/BrokerT8.lean (namespace `Wasp.Broker`). It follows from the invariant `TI` of one-node
    worlds proven there (`ti_step`, one lemma per operation): nothing is pending; while the node has not failed every
    live stored subscription belongs to a REGISTERED session and its key is one of that session's `topics`; every
    element of a registered session's `topics` has the form `prefixMountPoint mount f`. -/

theorem subSessInv_reachable_single (w : World) (hr : Reachable w) (hlen : w.nodes.length = 1) : SubSessInv w :=
  subSessInv_of_ti (ti_reachable w hr hlen)

theorem reachable_subs_local (w : World) (hr : Reachable w) (hlen : w.nodes.length = 1)
    (kl : String × List Sub) (hkl : kl ∈ (w.node 0).dist.subs) (u : Sub) (hu : u ∈ kl.2) : u.peer = (w.node 0).peer := by
  have hinv := reachable_inv2 w hr
  have hb := hinv.subPeers 0 kl hkl u hu
  rw [hinv.peers 0 (by omega)]
  omega

/-- C17 end to end (one node, QoS 0 subscriptions, log accepting): whatever is written for a publish made in mount
    point `s.mount` on `topic` is a PUBLISH of exactly `topic`, to a registered session of the same mount point -/
theorem C17_e2e_isolated (w : World) (hr : Reachable w) (hlen : w.nodes.length = 1) (hf : (w.node 0).failed = false)
    (sid : String) (s : Sess) (hs : (w.node 0).sess sid = some s) (topic payload : String) (dup : Bool) (mid : Int)
    (hm : ∀ r ∈ (w.node 0).reg, wfMount r.mount)
    (hq0 : ∀ kl ∈ (w.node 0).dist.subs, ∀ u ∈ kl.2, u.qos = 0)
    (hlog : (w.node 0).logFailAll = false ∧ (w.node 0).logFailAt.contains (w.node 0).logCalls = false)
    (c : String) (pk : Pkt)
    (h : (c, pk) ∈ ((w.process 0 sid (.publish topic payload 0 false dup mid)).1.out.drop w.out.length)) :
    ∃ r ∈ (w.node 0).reg, r.conn = c ∧ r.mount = s.mount ∧ pk = Pkt.publish topic payload 0 false dup 0 := by
  obtain ⟨kl, hkl, u, hu, hmatch, hadd, r, hr', hconn, hpk⟩ :=
    (C01_e2e_exact_reachable w hr hlen sid s hs topic payload dup mid hq0 hlog c pk).mp h
  obtain ⟨f, hkey⟩ := subSessInv_reachable_single w hr hlen 0 hf kl hkl u hu hadd (reachable_subs_local w hr hlen kl hkl u hu) r hr'
  have hrmem := (sess_some hr').1
  have hsmem := (sess_some hs).1
  have hmount : r.mount = s.mount := by
    apply Classical.byContradiction
    intro hne
    rw [hkey, C17_no_cross_match r.mount s.mount f topic (hm r hrmem) (hm s hsmem) hne] at hmatch
    cases hmatch
  refine ⟨r, hrmem, hconn, hmount, ?_⟩
  rw [hpk, hmount, C17_trim_prefix]

/-- non-vacuity: the same client-side filter and topic in two mount points; only the subscriber of the publisher's
    mount point is written to -/
example :
    let w0 := (((World.init 1).connect "p" 0 "idp" "m1" true 60 none).connect "a" 0 "ida" "m1" true 60 none).connect "b" 0 "idb" "m2" true 60 none
    let w1 := (w0.clientPacket "a" (.subscribe 1 [("#", 0)])).clientPacket "b" (.subscribe 2 [("#", 0)])
    let w2 := { w1 with out := [] }
    (w2.clientPacket "p" (.publish "x" "01" 0 false false 0)).out = [("a", Pkt.publish "x" "01" 0 false false 0)] := by
  decide +kernel

end Wasp.Broker
