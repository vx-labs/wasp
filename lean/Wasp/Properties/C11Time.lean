import Wasp.Model.Broker
import Wasp.Model.Wire
import Wasp.Properties.C11
import Wasp.Proofs.BrokerT1
/-!
# C11 (timing clause) — a session ends by silence only when its keep-alive allowance is exhausted

The connections' clock is `World.now`; it moves with `idle` (wall-clock time passes: node-failure timers too) and
`elapse` (only the connections' clock moves: the harness drives a virtual clock under the real connections).
A session's read deadline is `now + 2 * keepalive * 1000` ms, re-armed after every packet it sends and by every
delivery written to it; a connection that has not completed CONNECT is closed 3 s after it was accepted.
-/
namespace Wasp.Broker
open Wasp.Wire Wasp.Broker.AgentT1

/-- time passing on the connections' clock spares every session whose allowance is not exhausted, however long the
    period is compared with other sessions' allowances -/
theorem C11_elapse_spares (w : World) (ms : Int) (i : Nat) (s : Sess) (hs : s ∈ (w.node i).reg)
    (hd : w.now + ms ≤ s.deadline) (hu : ((w.node i).reg.map (·.id)).Nodup) :
    s.id ∈ regIds ((Wasp.Wire.elapse w ms).node i) :=
  elapse_spares w ms i s hs hd hu

/-- … and so does wall-clock time, including the CONNECT deadlines of other connections -/
theorem C11_wire_idle_spares (w : World) (ms : Int) (i : Nat) (s : Sess) (hs : s ∈ (w.node i).reg)
    (hd : w.now + ms ≤ s.deadline) (hu : ((w.node i).reg.map (·.id)).Nodup) :
    s.id ∈ regIds ((Wasp.Wire.idle w ms).node i) :=
  wire_idle_spares w ms i s hs hd hu

/-- after time has passed, no session of a running node is still registered beyond its deadline: silence exceeding
    the allowance does end the session (unless a delivery re-armed it in the meantime) -/
theorem C11_idle_no_overdue (w : World) (ms : Int) (i : Nat) (hf : (w.node i).failed = false) (s : Sess)
    (hs : s ∈ ((w.idle ms).node i).reg) (hu : ∀ j, ((w.node j).reg.map (·.id)).Nodup) :
    (w.idle ms).now ≤ s.deadline :=
  idle_no_overdue w ms i hf s hs (hu i)

/-- every packet that does not end the session re-arms its allowance: twice the keep-alive from now -/
theorem C11_packet_rearms (w : World) (c : String) (pkt : CPkt) (i : Nat) (s' : Sess)
    (hc : w.conns.find? (fun e => e.1 == c) = some (c, i))
    (hhad : ((w.node i).sess ("S" ++ c)).isSome)
    (hs' : ((w.clientPacket c pkt).node i).sess ("S" ++ c) = some s') :
    s'.deadline = w.now + 2 * s'.keepalive * 1000 :=
  packet_rearms w c pkt i s' hc hhad hs'

/-- a connection that has not completed CONNECT (nothing buffered) when its 3 s are over is closed -/
theorem C11_handshake_expires (w : World) (c : String) (i : Nat) (d : Int)
    (hh : (c, d) ∈ w.hs) (hnd : (w.hs.map (·.1)).Nodup) (hd : d < w.now)
    (hc : w.conns.find? (fun e => e.1 == c) = some (c, i))
    (hns : hasSession w c = false) (hdeaf : w.deaf.contains c = false)
    (hbufs : ∀ e ∈ w.hs, bufOf w e.1 = []) :
    (c, Pkt.closed) ∈ (expireHandshakes w).out ∧ (expireHandshakes w).conns.any (fun e => e.1 == c) = false :=
  handshake_expires w c i d hh hnd hd hc hns hdeaf hbufs

/-- … and one whose 3 s are not over stays open -/
theorem C11_handshake_spares (w : World) (c : String) (i : Nat) (d : Int)
    (hh : (c, d) ∈ w.hs) (hnd : (w.hs.map (·.1)).Nodup) (hd : w.now ≤ d)
    (hc : w.conns.find? (fun e => e.1 == c) = some (c, i))
    (hbufs : ∀ e ∈ w.hs, bufOf w e.1 = []) :
    (expireHandshakes w).conns.any (fun e => e.1 == c) = true :=
  handshake_spares w c i d hh hnd hd hc hbufs

/-- non-vacuity: two sessions with keep-alives 1 s and 5 s and a connection without CONNECT; after 2.5 s the first is gone,
    after 3.5 s the silent connection too, the second session outlives both -/
example :
    let w0 := openConn (((World.init 1).connect "a" 0 "ida" "mp" true 1 none).connect "b" 0 "idb" "mp" true 5 none) "h" 0
    let w1 := Wasp.Wire.elapse w0 2500
    let w2 := Wasp.Wire.elapse w1 1000
    regIds (w1.node 0) = ["Sb"] ∧ w1.conns.any (fun e => e.1 == "h") = true ∧
    regIds (w2.node 0) = ["Sb"] ∧ w2.conns.any (fun e => e.1 == "h") = false := by
  decide +kernel

end Wasp.Broker
