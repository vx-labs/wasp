import Wasp.Properties.C02
import Wasp.Proofs.BrokerT3
/-!
# C02 / C06 glue — the identifier the pool hands out is never in flight

`C02_send_one` assumed `hfresh`: "the identifier the pool hands out is not in flight for that session".
Here it is discharged from the cross-component invariant `PoolInv` (defined in `Wasp/Proofs/BrokerT3.lean`):

* pool well formed (`IdPool.Inv`), in-flight table coherent (`Ack.QInv`);
* every in-flight key has a stored callback;
* every OUTBOUND callback `(k, st)` is filed under `hashKey sid mid` of its own session/identifier and its
  identifier is NOT free in the pool; inbound callbacks are filed under `hashKey (sid ++ "/in") mid`;
* an identifier is held by the callbacks of at most one key.

`WorldPoolInv w := ∀ i, PoolInv (w.node i)` holds initially (`C02Pool_init`) and is preserved by EVERY operation of
the broker model, with no side hypothesis (`C02Pool_*`). The internal writer steps need the obvious
preconditions: `poolPut` for an identifier no callback holds (`Unheld`), `armAndSend` / `sendArmed` /
`onResolved` for an exchange whose identifier is reserved (not free) and unheld.

The payoff `C02_fresh_id_not_inflight` needs one side hypothesis: `sid` is not `s ++ "/in"` for a session `s` that
has an inbound QoS 2 handshake stored on the node (inbound and outbound keys share one table). Without it the
statement is false in a reachable world: `C02_fresh_collision`.
-/
namespace Wasp.Broker
open Wasp.Dist Wasp.Topic Wasp.Broker.AgentT3

/-! ### the invariant holds initially -/

theorem C02Pool_init (n : Nat) : WorldPoolInv (World.init n) := wpi_init n

/-! ### preservation: writer internals (with the situations in which the model calls them) -/

/-- giving back an identifier that no stored callback holds -/
theorem C02Pool_poolPut (w : World) (i : Nat) (mid : Int) (h : WorldPoolInv w) (hu : Unheld (w.node i) mid) :
    WorldPoolInv (w.poolPut i mid) := poolPut_inv w i mid h hu

/-- arming an exchange whose identifier is reserved (not free in the pool) and held by no other callback -/
theorem C02Pool_armAndSend (w : World) (i : Nat) (st : Stored) (h : WorldPoolInv w)
    (hres : ∀ sid mid, st.out? = some (sid, mid) →
      ¬ IdPool.freeIn (w.node i).pool.ivs mid ∧ Unheld (w.node i) mid) :
    WorldPoolInv (w.armAndSend i st) := armAndSend_inv w i st h hres

theorem C02Pool_sendArmed (w : World) (i : Nat) (st : Stored) (sid : String) (mid : Int) (h : WorldPoolInv w)
    (ho : st.out? = some (sid, mid))
    (hfree : ¬ IdPool.freeIn (w.node i).pool.ivs mid) (hu : Unheld (w.node i) mid) :
    WorldPoolInv (w.sendArmed i st sid mid) := sendArmed_inv w i st sid mid h ho hfree hu

theorem C02Pool_onResolved (w : World) (i : Nat) (ev : Ack.Resolved) (st : Stored) (h : WorldPoolInv w)
    (hres : ∀ sid mid, st.out? = some (sid, mid) →
      ¬ IdPool.freeIn (w.node i).pool.ivs mid ∧ Unheld (w.node i) mid) :
    WorldPoolInv (w.onResolved i ev st) := onResolved_inv w i ev st h hres

/-! ### preservation: the operations of the model (no side hypotheses) -/

theorem C02Pool_send (w : World) (i : Nat) (rcpt : List (String × Int)) (p : Pub) (h : WorldPoolInv w) :
    WorldPoolInv (w.send i rcpt p) := send_inv i p rcpt w h

theorem C02Pool_sweep (w : World) (i : Nat) (h : WorldPoolInv w) : WorldPoolInv (w.sweep i) := sweep_inv w i h

theorem C02Pool_ackFrom (w : World) (i : Nat) (pfx : String) (kind : Ack.PType) (mid : Int) (h : WorldPoolInv w) :
    WorldPoolInv (w.ackFrom i pfx kind mid) := ackFrom_inv w i pfx kind mid h

theorem C02Pool_deliverLocal (w : World) (j : Nat) (p : Pub) (h : WorldPoolInv w) :
    WorldPoolInv (w.deliverLocal j p) := deliverLocal_inv w j p h

theorem C02Pool_distribute (w : World) (i : Nat) (p : Pub) (h : WorldPoolInv w) :
    WorldPoolInv (w.distribute i p).1 := distribute_inv w i p h

theorem C02Pool_publishJob (w : World) (i : Nat) (p : Pub) (onOk : World → World) (h : WorldPoolInv w)
    (hok : ∀ w, WorldPoolInv w → WorldPoolInv (onOk w)) : WorldPoolInv (w.publishJob i p onOk) :=
  publishJob_inv w i p onOk h hok

theorem C02Pool_process (w : World) (i : Nat) (sid : String) (pkt : CPkt) (h : WorldPoolInv w) :
    WorldPoolInv (w.process i sid pkt).1 := process_inv w i sid pkt h

theorem C02Pool_clientPacket (w : World) (conn : String) (pkt : CPkt) (h : WorldPoolInv w) :
    WorldPoolInv (w.clientPacket conn pkt) := clientPacket_inv w conn pkt h

theorem C02Pool_shutdownSession (w : World) (i : Nat) (sid : String) (h : WorldPoolInv w) :
    WorldPoolInv (w.shutdownSession i sid) := shutdownSession_inv w i sid h

theorem C02Pool_connect (w : World) (conn : String) (i : Nat) (client mount : String) (authOk : Bool)
    (keepalive : Nat) (will : Option Will) (h : WorldPoolInv w) :
    WorldPoolInv (w.connect conn i client mount authOk keepalive will) :=
  connect_inv w conn i client mount authOk keepalive will h

theorem C02Pool_drop (w : World) (conn : String) (h : WorldPoolInv w) : WorldPoolInv (w.drop conn) :=
  drop_inv w conn h

theorem C02Pool_deliverGossip (w : World) (src dst : Nat) (h : WorldPoolInv w) :
    WorldPoolInv (w.deliverGossip src dst) := deliverGossip_inv w src dst h

theorem C02Pool_gossipAll (w : World) (h : WorldPoolInv w) : WorldPoolInv w.gossipAll := gossipAll_inv w h

theorem C02Pool_notifyLeave (w : World) (i : Nat) (peer : Nat) (h : WorldPoolInv w) :
    WorldPoolInv (w.notifyLeave i peer) := notifyLeave_inv w i peer h

theorem C02Pool_nodeFail (w : World) (f : Nat) (h : WorldPoolInv w) : WorldPoolInv (w.nodeFail f) :=
  nodeFail_inv w f h

theorem C02Pool_idle (w : World) (ms : Int) (h : WorldPoolInv w) : WorldPoolInv (w.idle ms) := idle_inv w ms h

/-! ### the payoff -/

/-- The identifier the pool hands out is not in flight for session `sid`, provided `sid` is not the in-flight
    prefix `s ++ "/in"` of an inbound QoS 2 handshake stored on the node. -/
theorem C02_fresh_id_not_inflight (w : World) (i : Nat) (sid : String) (h : WorldPoolInv w)
    (hsid : ∀ k s c p m, (k, Stored.inbound s c p m) ∈ (w.node i).stored → sid ≠ s ++ "/in")
    (hget : 0 < (IdPool.get (w.node i).pool).2) :
    Ack.msgFind (Ack.hashKey sid (IdPool.get (w.node i).pool).2) (w.node i).acks.msgs = none := by
  have hn := h i
  have hne : (w.node i).pool.ivs ≠ [] := by
    intro he
    rw [IdPool.get_empty _ he] at hget
    simp at hget
  have hfree : IdPool.freeIn (w.node i).pool.ivs (IdPool.get (w.node i).pool).2 :=
    (IdPool.get_spec _ hn.pool hne).2.1
  cases hf : Ack.msgFind (Ack.hashKey sid (IdPool.get (w.node i).pool).2) (w.node i).acks.msgs with
  | none => rfl
  | some m =>
    exfalso
    obtain ⟨st, hst⟩ := hn.sub _ m (Ack.msgFind_some_mem hf)
    cases st with
    | out1 s' _ _ _ _ m' | out2 s' _ _ _ _ m' | rel s' m' =>
      obtain ⟨hk, hnf⟩ := hn.key _ _ s' m' hst rfl
      rw [(hashKey_inj hk).2] at hfree
      exact hnf hfree
    | inbound s' c pb m' =>
      have hk := hn.inb _ s' c pb m' hst
      exact hsid _ s' c pb m' hst (hashKey_inj hk).1

/-- the same with the simplest side hypothesis: `sid` does not end in "/in" -/
theorem C02_fresh_id_not_inflight_of_suffix (w : World) (i : Nat) (sid : String) (h : WorldPoolInv w)
    (hsid : ∀ s, sid ≠ s ++ "/in") (hget : 0 < (IdPool.get (w.node i).pool).2) :
    Ack.msgFind (Ack.hashKey sid (IdPool.get (w.node i).pool).2) (w.node i).acks.msgs = none :=
  C02_fresh_id_not_inflight w i sid h (fun _ s _ _ _ _ => hsid s) hget

/-- `C02_send_one` with the freshness assumption replaced by the invariant -/
theorem C02_send_one' (w : World) (i : Nat) (hi : i < w.nodes.length) (sid : String) (s : Sess)
    (hs : (w.node i).sess sid = some s) (hid : s.id = sid) (p : Pub)
    (hget : 0 < (IdPool.get (w.node i).pool).2)
    (h : WorldPoolInv w)
    (hsid : ∀ k s' c p' m, (k, Stored.inbound s' c p' m) ∈ (w.node i).stored → sid ≠ s' ++ "/in") :
    (w.send i [(sid, 1)] p).out =
      w.out ++ [(s.conn, .publish (trimMountPoint s.mount p.topic) p.payload 1 p.retain p.dup (IdPool.get (w.node i).pool).2)] :=
  C02_send_one w i hi sid s hs hid p hget (C02_fresh_id_not_inflight w i sid h hsid hget)


/-! ### the side hypothesis of the payoff is needed -/

/-- one node; connections "c" and "c/in" (sessions "Sc" and "Sc/in"); "c/in" subscribes to "t" with QoS 1;
    "c" starts a QoS 2 publish with identifier 1, which is filed under "Sc/in/1" -/
def C02Pool_collisionWorld : World :=
  ((((World.init 1).connect "c" 0 "c1" "m" true 30 none).connect "c/in" 0 "c2" "m" true 30 none)
    |>.clientPacket "c/in" (.subscribe 1 [("t", 1)])) |>.clientPacket "c" (.publish "x" "q2" 2 false false 1)

/-- In this REACHABLE world the invariant holds, session "Sc/in" is registered, the pool hands out identifier 1,
    and the key of ("Sc/in", 1) is in flight — it is the inbound handshake of session "Sc". So `hfresh` of
    `C02_send_one` fails there, and indeed a QoS 1 publish to "t" is acknowledged to the publisher (PUBACK 9) and
    stored in the log, yet nothing is written to the subscriber "c/in": the insertion fails with a duplicate key,
    `sendArmed` gives the identifier back, and the message is dropped. -/
theorem C02_fresh_collision :
    WorldPoolInv C02Pool_collisionWorld ∧
    ((C02Pool_collisionWorld.node 0).sess "Sc/in").isSome = true ∧
    (IdPool.get (C02Pool_collisionWorld.node 0).pool).2 = 1 ∧
    Ack.msgFind (Ack.hashKey "Sc/in" (IdPool.get (C02Pool_collisionWorld.node 0).pool).2)
      (C02Pool_collisionWorld.node 0).acks.msgs = some ⟨.pubrel, .pubrec, 1, 3000⟩ ∧
    (C02Pool_collisionWorld.clientPacket "c" (.publish "t" "hello" 1 false false 9)).out
      = C02Pool_collisionWorld.out ++ [("c", .puback 9)] ∧
    ((C02Pool_collisionWorld.clientPacket "c" (.publish "t" "hello" 1 false false 9)).node 0).log
      = [⟨"m/t", "hello", 1, false, false⟩] := by
  refine ⟨?_, by decide +kernel⟩
  exact C02Pool_clientPacket _ _ _ (C02Pool_clientPacket _ _ _
    (C02Pool_connect _ _ _ _ _ _ _ _ (C02Pool_connect _ _ _ _ _ _ _ _ (C02Pool_init 1))))

/-! ### a concrete reachable world -/

/-- one node; "a" and "b" connect, "b" subscribes to "t" with QoS 1, "a" publishes "hello" on "t" with QoS 1:
    the delivery to "b" (identifier 1) is in flight, not yet acknowledged -/
def C02Pool_exampleWorld : World :=
  ((((World.init 1).connect "a" 0 "ca" "m" true 30 none).connect "b" 0 "cb" "m" true 30 none)
    |>.clientPacket "b" (.subscribe 1 [("t", 1)])) |>.clientPacket "a" (.publish "t" "hello" 1 false false 7)

/-- the invariant holds in that world (by the preservation lemmas); the world is not trivial: one exchange is
    in flight, its callback holds identifier 1, identifier 1 is not free, and the next identifier (2) is not in
    flight for "Sb" (what `C02_fresh_id_not_inflight` says, here by evaluation) -/
example :
    WorldPoolInv C02Pool_exampleWorld ∧
    (C02Pool_exampleWorld.node 0).acks.msgs = [("Sb/1", ⟨.puback, .publish, 1, 3000⟩)] ∧
    (C02Pool_exampleWorld.node 0).stored.map (fun e => (e.1, e.2.out?)) = [("Sb/1", some ("Sb", 1))] ∧
    (C02Pool_exampleWorld.node 0).pool.ivs = [(1, 65535)] ∧
    ¬ IdPool.freeIn (C02Pool_exampleWorld.node 0).pool.ivs 1 ∧
    (IdPool.get (C02Pool_exampleWorld.node 0).pool).2 = 2 ∧
    Ack.msgFind (Ack.hashKey "Sb" (IdPool.get (C02Pool_exampleWorld.node 0).pool).2)
      (C02Pool_exampleWorld.node 0).acks.msgs = none := by
  have hinv : WorldPoolInv C02Pool_exampleWorld :=
    C02Pool_clientPacket _ _ _ (C02Pool_clientPacket _ _ _
      (C02Pool_connect _ _ _ _ _ _ _ _ (C02Pool_connect _ _ _ _ _ _ _ _ (C02Pool_init 1))))
  exact ⟨hinv, by decide +kernel⟩

end Wasp.Broker
