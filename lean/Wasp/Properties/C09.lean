import Wasp.Model.Dist
import Wasp.Proofs.DistSync
/-!
# C09 — every local state change is carried completely by the broadcasts it queues

Origin node `A` performs any sequence of local operations, its clock strictly increasing;
a second node `B` receives, in order, the broadcasts those operations queued. After every
prefix of the sequence the three stores of `B` EQUAL those of `A` (same entries, same
stamps — so both list exactly the same sessions, subscriptions and retained messages).
In particular no operation changes `A` without queueing a broadcast that conveys it, and a
bulk operation's broadcast contains every entry the operation touched.
-/
namespace Wasp.Dist
open Wasp.Crdt Wasp.Topic

inductive Op where
  | sessCreate (id client : String) (connectedAt : Int) (lwt : Option Will) (mount : String)
  | sessDelete (id : String)
  | sessDeletePeer (peer : Nat)
  | subCreate (session pattern : String) (qos : Int)
  | subDelete (session pattern : String)
  | subDeletePeer (peer : Nat)
  | subDeleteSession (session : String)
  | topicSet (topic payload : String) (qos : Nat) (retain dup : Bool)
  | topicDelete (topic : String)

/-- one local operation at clock value `now`: new state and the broadcast it queues -/
def applyOp (st : State) (now : Int) : Op → State × Option Event
  | .sessCreate id c ca lwt mp => let r := sessCreate st now id c ca lwt mp; (r.1, r.2.1)
  | .sessDelete id => sessDelete st now id
  | .sessDeletePeer p => let r := sessDeletePeer st now p; (r.1, some r.2)
  | .subCreate s p q => let r := subCreate st now s p q; (r.1, some r.2)
  | .subDelete s p => let r := subDelete st now s p; (r.1, some r.2)
  | .subDeletePeer p => let r := subDeletePeer st now p; (r.1, some r.2)
  | .subDeleteSession s => let r := subDeleteSession st now s; (r.1, some r.2)
  | .topicSet t p q r d => let x := topicSet st now t p q r d; (x.1, some x.2)
  | .topicDelete t => let r := topicDelete st now t; (r.1, some r.2)

/-- what the code never checks locally but every caller guarantees: non-empty ids and filters,
    retained topics are non-empty topic names (callers: wasp/packets.go:77–79, :185, :217, wasp/conn.go:243;
    the RPC handlers wasp/grpc.go:34–79 pass the request's fields on unchecked) -/
def Op.valid : Op → Prop
  | .sessCreate id _ _ _ _ => id ≠ ""
  | .sessDelete _ => True
  | .sessDeletePeer _ => True
  | .subCreate s p _ => s ≠ "" ∧ p ≠ ""
  | .subDelete s p => s ≠ "" ∧ p ≠ ""
  | .subDeletePeer _ => True
  | .subDeleteSession _ => True
  | .topicSet t _ _ _ _ => t ≠ "" ∧ wfTopic (levels t) = true
  | .topicDelete t => t ≠ "" ∧ wfTopic (levels t) = true

/-- run a timed script on the origin, feeding each queued broadcast to the receiver -/
def runBoth : State → State → List (Int × Op) → State × State
  | a, b, [] => (a, b)
  | a, b, (now, op) :: rest =>
    let r := applyOp a now op
    let b' := match r.2 with
      | some ev => merge b ev
      | none => b
    runBoth r.1 b' rest

/-- clock values are positive and strictly increasing -/
def clockOk : Int → List (Int × Op) → Prop
  | _, [] => True
  | last, (now, _) :: rest => last < now ∧ clockOk now rest

theorem sync_step {last now : Int} {a b : State} (h : SyncInv last a b) (h0 : 0 ≤ last) (hlt : last < now)
    (op : Op) (hv : op.valid) :
    SyncInv now (applyOp a now op).1 (recv b (applyOp a now op).2) := by
  cases op with
  | sessCreate id c ca lwt mp => exact sync_sessCreate h h0 hlt id c ca lwt mp hv
  | sessDelete id => exact sync_sessDelete h hlt id
  | sessDeletePeer p => exact sync_sessDeletePeer h hlt p
  | subCreate s p q => exact sync_subCreate h h0 hlt s p q hv
  | subDelete s p => exact sync_subDelete h h0 hlt s p hv
  | subDeletePeer p => exact sync_subBulkDelete h hlt _
  | subDeleteSession s => exact sync_subBulkDelete h hlt _
  | topicSet t p q r d => exact sync_topicSet h h0 hlt t p q r d hv
  | topicDelete t => exact sync_topicDelete h h0 hlt t hv

theorem sync_run {last : Int} {a b : State} (script : List (Int × Op)) (h : SyncInv last a b) (h0 : 0 ≤ last)
    (hv : ∀ x ∈ script, x.2.valid) (hc : clockOk last script) :
    ∃ last', SyncInv last' (runBoth a b script).1 (runBoth a b script).2 := by
  induction script generalizing last a b with
  | nil => exact ⟨last, h⟩
  | cons x rest ih =>
    obtain ⟨now, op⟩ := x
    simp only [clockOk] at hc
    have hstep := sync_step h h0 hc.1 op (hv (now, op) (by simp))
    exact ih hstep (by omega) (fun y hy => hv y (by simp [hy])) hc.2

/-- C09: origin and receiver hold identical stores after any script -/
theorem C09_receiver_equals_origin (pa pb : Nat) (script : List (Int × Op))
    (hv : ∀ x ∈ script, x.2.valid) (hc : clockOk 0 script) :
    let r := runBoth { peer := pa } { peer := pb } script
    r.2.sessions = r.1.sessions ∧ r.2.subs = r.1.subs ∧ r.2.topics = r.1.topics := by
  obtain ⟨_, h⟩ := sync_run script (SyncInv.init pa pb) (Int.le_refl 0) hv hc
  exact ⟨h.1, h.2.1, h.2.2.1⟩

/-- … hence they list the same things (sessions, subscriptions, by pattern, retained) -/
theorem C09_same_listing (pa pb : Nat) (script : List (Int × Op))
    (hv : ∀ x ∈ script, x.2.valid) (hc : clockOk 0 script) (topic pattern : String) :
    let r := runBoth { peer := pa } { peer := pb } script
    sessAll r.2 = sessAll r.1 ∧ subAll r.2 = subAll r.1 ∧
      subByPattern r.2 topic = subByPattern r.1 topic ∧ topicGet r.2 pattern = topicGet r.1 pattern := by
  obtain ⟨h1, h2, h3⟩ := C09_receiver_equals_origin pa pb script hv hc
  simp only [sessAll, sessFilter, subAll, subFilter, subByPattern, topicGet]
  simp only [h1, h2, h3, and_self]

/-- a bulk removal's broadcast contains exactly the entries it stamped -/
theorem C09_bulk_complete_subs (st : State) (now : Int) (f : Sub → Bool) :
    (subBulkDelete st now f).2.subs = (subFilter st f).map (fun s => { s with deleted := now }) := by
  rfl

theorem C09_bulk_complete_sessions (st : State) (now : Int) (p : Nat) :
    (sessDeletePeer st now p).2.sessions = (sessByPeer st p).map (fun s => { s with deleted := now }) := by
  rfl

/-- an operation that changes the origin always queues a broadcast -/
theorem C09_no_silent_change (st : State) (now : Int) (op : Op) (h : (applyOp st now op).2 = none) :
    (applyOp st now op).1 = st := by
  cases op with
  | sessCreate id c ca lwt mp =>
    revert h
    show (sessCreate st now id c ca lwt mp).2.1 = none → (sessCreate st now id c ca lwt mp).1 = st
    unfold sessCreate
    split
    · split
      · exact fun _ => rfl
      · exact fun h => absurd h (Option.some_ne_none _)
    · exact fun h => absurd h (Option.some_ne_none _)
  | sessDelete id =>
    revert h
    show (sessDelete st now id).2 = none → (sessDelete st now id).1 = st
    unfold sessDelete
    split
    · exact fun _ => rfl
    · split
      · exact fun _ => rfl
      · exact fun h => absurd h (Option.some_ne_none _)
  | _ => exact absurd h (Option.some_ne_none _)

end Wasp.Dist
