import Wasp.Model.Auth
import Wasp.Proofs.Auth
/-!
# C16 — clients are admitted iff their credentials match the configured store

For EVERY credential file (any number of 2- and 3-field lines in any order, duplicates
included) and every candidate (user, password): the file store accepts exactly when some
configured line has that user name and that password fingerprint, and then places the
session in a matching line's mount point (the default one for 2-field lines and empty third
fields). The static store accepts exactly the configured pair, in the default mount point.
`H` (SHA-256 fingerprint) is only assumed injective.
-/
namespace Wasp.Auth

/-- the credential lines a candidate matches -/
def credMatch (H : String → String) (lines : List (List String)) (user pass mount : String) : Prop :=
  ∃ l ∈ lines, ∃ r, recordOf H l = some r ∧ r.userHash = H user ∧ r.passHash = H pass ∧ r.mount = mount

/-- sort.Search on a monotone predicate returns the first index where it holds -/
theorem goSearch_spec (n : Nat) (f : Nat → Bool) (mono : ∀ i j, i ≤ j → j < n → f i = true → f j = true) :
    goSearch n f ≤ n ∧ (∀ i, i < goSearch n f → f i = false) ∧ (∀ i, goSearch n f ≤ i → i < n → f i = true) := by
  have h := goSearchLoop_inv f (fun k => ∀ i, i < k → f i = false) (fun k => ∀ i, k ≤ i → i < n → f i = true) n
    (fun h hn hfh i hi => by
      cases hfi : f i with
      | false => rfl
      | true => rw [mono i h (Nat.le_of_lt_succ hi) hn hfi] at hfh; cases hfh)
    (fun h _ hfh i hi hn => mono h i hi hn hfh)
    (n + 1) 0 n (Nat.zero_le n) (Nat.le_refl n) (by omega)
    (fun i hi => absurd hi (Nat.not_lt_zero i)) (fun i hi hn => absurd hn (Nat.not_lt.2 hi))
  exact ⟨goSearch_le n f, h⟩

theorem sortByUser_perm (l : List Record) : (sortByUser l).Perm l := by
  induction l with
  | nil => exact List.Perm.refl _
  | cons x rest ih => exact (insertByUser_perm x _).trans (List.Perm.cons x ih)

theorem sortByUser_sorted (l : List Record) :
    (sortByUser l).Pairwise (fun a b => a.userHash ≤ b.userHash) := by
  induction l with
  | nil => exact List.Pairwise.nil
  | cons x rest ih => exact insertByUser_sorted x _ ih

theorem mem_load (H : String → String) (lines : List (List String)) (r : Record) :
    r ∈ load H lines ↔ ∃ l ∈ lines, recordOf H l = some r := by
  unfold load
  rw [(sortByUser_perm _).mem_iff, List.mem_filterMap]

theorem load_sorted (H : String → String) (lines : List (List String)) :
    (load H lines).Pairwise (fun a b => a.userHash ≤ b.userHash) :=
  sortByUser_sorted _

/-- on a table sorted by user hash, `authenticate` returns the mount of the first entry with
    that user hash and that password hash -/
theorem authenticate_eq_find (H : String → String) (db : List Record)
    (hs : db.Pairwise (fun a b => a.userHash ≤ b.userHash)) (user pass : String) :
    authenticate H db user pass = (db.find? (hit (H user) (H pass))).map (·.mount) := by
  let f : Nat → Bool := fun i => match db[i]? with
      | some r => decide (r.userHash ≥ H user) | none => true
  have hf : ∀ i (hi : i < db.length), f i = decide (H user ≤ db[i].userHash) := fun i hi => by
    simp [f, List.getElem?_eq_getElem hi]
  obtain ⟨hle, hlo, hhi⟩ := goSearch_spec db.length f fun i j hij hj hfi => by
    rw [hf i (by omega)] at hfi
    rw [hf j hj]
    exact decide_eq_true (String.le_trans (of_decide_eq_true hfi) (sorted_getElem_le db hs i j hij hj))
  show scanFrom db (H user) (H pass) (db.length + 1) (goSearch db.length f) = _
  generalize goSearch db.length f = idx at hle hlo hhi
  -- the table splits at `idx`: below it every user hash is less than `H user`, from it on none is
  obtain ⟨pre, rest, rfl, rfl⟩ : ∃ pre rest, db = pre ++ rest ∧ pre.length = idx :=
    ⟨db.take idx, db.drop idx, (List.take_append_drop idx db).symm, List.length_take_of_le hle⟩
  have hpre : pre.find? (hit (H user) (H pass)) = none := List.find?_eq_none.2 fun x hx => by
    obtain ⟨k, hk, rfl⟩ := List.mem_iff_getElem.1 hx
    have h := hlo k hk
    rw [hf k (by rw [List.length_append]; omega), List.getElem_append_left hk] at h
    have : pre[k].userHash ≠ H user := fun e => of_decide_eq_false h (e ▸ String.le_refl _)
    simp [hit, this]
  have hrest : ∀ x ∈ rest, H user ≤ x.userHash := fun x hx => by
    obtain ⟨k, hk, rfl⟩ := List.mem_iff_getElem.1 hx
    have hk' : pre.length + k < (pre ++ rest).length := by rw [List.length_append]; omega
    have h := hhi (pre.length + k) (Nat.le_add_right _ _) hk'
    rw [hf _ hk', List.getElem_append_right (Nat.le_add_right _ _)] at h
    simpa using of_decide_eq_true h
  rw [scanFrom_append _ _ rest pre _ (List.pairwise_append.1 hs).2.1 hrest
    (by rw [List.length_append]; omega), List.find?_append, hpre, Option.none_or]

/-- accepted ⇒ a configured line credMatch, with that mount point -/
theorem C16_file_sound (H : String → String) (lines : List (List String)) (user pass mount : String)
    (h : authenticate H (load H lines) user pass = some mount) : credMatch H lines user pass mount := by
  rw [authenticate_eq_find H _ (load_sorted H lines)] at h
  obtain ⟨r, hfind, hm⟩ := Option.map_eq_some_iff.mp h
  have hmem := List.mem_of_find?_eq_some hfind
  have hhit := (hit_iff _ _ _).mp (List.find?_some hfind)
  obtain ⟨l, hl, hrec⟩ := (mem_load H lines r).mp hmem
  exact ⟨l, hl, r, hrec, hhit.1, hhit.2, hm⟩

/-- a configured line credMatch ⇒ accepted (whichever entry it is, however many there are) -/
theorem C16_file_complete (H : String → String) (lines : List (List String)) (user pass mount : String)
    (h : credMatch H lines user pass mount) : ∃ m, authenticate H (load H lines) user pass = some m := by
  obtain ⟨l, hl, r, hrec, hu, hp, _⟩ := h
  rw [authenticate_eq_find H _ (load_sorted H lines)]
  have hmem : r ∈ load H lines := (mem_load H lines r).mpr ⟨l, hl, hrec⟩
  cases hfind : (load H lines).find? (hit (H user) (H pass)) with
  | some r' => exact ⟨r'.mount, rfl⟩
  | none =>
    have := List.find?_eq_none.mp hfind r hmem
    exact absurd ((hit_iff _ _ _).mpr ⟨hu, hp⟩) this

set_option linter.unusedVariables false in -- `hinj` is not needed, kept for the statement
/-- with one line per user name the mount point is that line's -/
theorem C16_file_mount (H : String → String) (hinj : ∀ a b, H a = H b → a = b) (lines : List (List String))
    (uniq : ∀ l₁ ∈ lines, ∀ l₂ ∈ lines, ∀ r₁ r₂, recordOf H l₁ = some r₁ → recordOf H l₂ = some r₂ →
              r₁.userHash = r₂.userHash → r₁ = r₂)
    (user pass mount : String) (h : credMatch H lines user pass mount) :
    authenticate H (load H lines) user pass = some mount := by
  obtain ⟨m, hm⟩ := C16_file_complete H lines user pass mount h
  obtain ⟨l, hl, r, hrec, hu, _, rfl⟩ := h
  obtain ⟨l', hl', r', hrec', hu', _, rfl⟩ := C16_file_sound H lines user pass m hm
  rw [hm, uniq l' hl' l hl r' r hrec' hrec (hu'.trans hu.symm)]

/-- the iff of the property statement -/
theorem C16_file_iff (H : String → String) (lines : List (List String)) (user pass : String) :
    (∃ m, authenticate H (load H lines) user pass = some m) ↔ (∃ m, credMatch H lines user pass m) := by
  constructor
  · rintro ⟨m, h⟩; exact ⟨m, C16_file_sound H lines user pass m h⟩
  · rintro ⟨m, h⟩; exact C16_file_complete H lines user pass m h

/-- a 2-field line, and a 3-field line with an empty third field, land in the default mount point;
    a 3-field line in its third field; the loader is total (no line shape can make it fail) -/
theorem C16_loader_mount (H : String → String) (u p m : String) :
    recordOf H [u, p] = some ⟨H u, p, defaultMountPoint⟩ ∧
    recordOf H [u, p, ""] = some ⟨H u, p, defaultMountPoint⟩ ∧
    (m ≠ "" → recordOf H [u, p, m] = some ⟨H u, p, m⟩) := by
  refine ⟨rfl, ?_, ?_⟩
  · simp [recordOf]
  · intro hm; simp [recordOf, hm]

theorem C16_static_iff (H : String → String) (hinj : ∀ a b, H a = H b → a = b) (cu cp user pass : String) :
    staticAuthenticate H cu cp user pass = some defaultMountPoint ↔ (user = cu ∧ pass = cp) := by
  unfold staticAuthenticate
  constructor
  · intro h
    split at h
    · cases h
    · next hn =>
      have h1 : H user = H cu := Decidable.byContradiction fun hc => hn (Or.inl hc)
      have h2 : H pass = H cp := Decidable.byContradiction fun hc => hn (Or.inr hc)
      exact ⟨hinj _ _ h1, hinj _ _ h2⟩
  · rintro ⟨rfl, rfl⟩
    simp

theorem C16_static_reject (H : String → String) (cu cp user pass : String) :
    staticAuthenticate H cu cp user pass = none ∨ staticAuthenticate H cu cp user pass = some defaultMountPoint := by
  unfold staticAuthenticate
  split
  · exact Or.inl rfl
  · exact Or.inr rfl

/-- non-vacuity: six users in "bad" order, the middle ones are found too -/
example : (["u1", "u2", "u3", "u4", "u5", "u6"].map fun u =>
    authenticate id (load id [["u4", "p4"], ["u1", "p1", "m1"], ["u6", "p6"], ["u2", "p2", ""], ["u5", "p5", "m5"], ["u3", "p3"]]) u ("p" ++ u.drop 1)) =
    [some "m1", some "_default", some "_default", some "_default", some "m5", some "_default"] := by decide +kernel

end Wasp.Auth
