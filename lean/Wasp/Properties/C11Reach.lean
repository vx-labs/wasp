import Wasp.Properties.C11Record
import Wasp.Properties.Reachable2
import Wasp.Proofs.BrokerT20
/-!
# C11 — the record of a session that ends goes away, on every reachable world

`C11_teardown_removes_record_of_clock` (Properties/C11Record.lean) carries three hypotheses about the session store of
the node: unique record ids, "a live record under the session's id describes that session", and "its stamp is not
ahead of the crdt clock". Here they are shown to hold for every registered session of every reachable world.

A connection name — hence a session id "S" + name — can be used again after its session ended, with another client
identifier or mount point, so records of SEVERAL incarnations of one id can be around in the cluster (stores and gossip
not yet delivered). `RecordInv` therefore speaks about the newest incarnation: for every registered session there is a
birth stamp `t` below the clock such that no record of the cluster under its id was added after `t`, the records added
at `t` carry the session's client identifier and mount point, and the record its own node stores under the id was last
updated at or after `t` — so a LIVE record under the id on that node is one of the incarnation added at `t`
(an older incarnation can only be there as a tombstone written after `t`).
-/
namespace Wasp.Broker
open Wasp.Dist Wasp.Broker.AgentT5 Wasp.Broker.AgentT20

/-- the record invariant: `added` stamps of all session records (stored or in pending gossip) below the crdt clock,
    unique ids per store, and the birth-stamp property of every registered session (`AgentT20.RI`) -/
structure RecordInv (w : World) : Prop where
  ri : RI w

theorem recordInv_init (n : Nat) : RecordInv (World.init n) := ⟨(j_init n).2⟩

theorem recordInv_step (w : World) (op : BOp) (hg : GlobalInv w) (_hg2 : GlobalInv2 w) (h : RecordInv w) :
    RecordInv (applyOp w op) :=
  ⟨(j_step ⟨(globalInv_iff w).mp hg, h.ri⟩ op).2⟩

theorem reachable_recordInv (w : World) (h : Reachable w) : RecordInv w := ⟨(j_reachable h).2⟩

/-- the three hypotheses of `C11_teardown_removes_record_of_clock`, for a registered session of a reachable world -/
theorem C11_record_facts_reachable (w : World) (hr : Reachable w) (i : Nat) (s : Sess) (hs : s ∈ (w.node i).reg) :
    ((w.node i).dist.sessions.map (·.id)).Nodup ∧
    (∀ md ∈ sessAll (w.node i).dist, md.id = s.id → md.mount = s.mount ∧ md.client = s.client) ∧
    (∀ md ∈ sessAll (w.node i).dist, md.id = s.id → md.added ≤ w.clock) :=
  (reachable_recordInv w hr).ri.facts i s hs

/-- every session record of a reachable world, stored or in gossip not yet delivered, was added before the clock -/
theorem C11_record_clock_reachable (w : World) (hr : Reachable w) (j : Nat) :
    (∀ md ∈ (w.node j).dist.sessions, md.added < w.clock) ∧
    (∀ e ∈ (w.node j).pending, ∀ md ∈ e.2.sessions, md.added < w.clock) :=
  ⟨fun md h => (reachable_recordInv w hr).ri.clk md ⟨j, Or.inl h⟩,
   fun e he md h => (reachable_recordInv w hr).ri.clk md ⟨j, Or.inr ⟨e, he, h⟩⟩⟩

/-- after the teardown of a registered session of a reachable world no live record with its id is left on its node -/
theorem C11_teardown_removes_record_reachable (w : World) (hr : Reachable w) (i : Nat) (hi : i < w.nodes.length) (s : Sess)
    (hs : s ∈ (w.node i).reg) :
    ∀ md ∈ sessAll ((teardown w i s).1.node i).dist, md.id ≠ s.id := by
  obtain ⟨hu, hrec, hclk⟩ := C11_record_facts_reachable w hr i s hs
  exact C11_teardown_removes_record_of_clock w i hi s hu hrec hclk

/-- non-vacuity, with a connection name that returns under another client identifier while a record of its first
    incarnation is still live on the other node: "a" connects on node 0 as idX, node 1 learns the record, "a" is dropped
    and the tombstone is lost, "a" connects again on node 0 as idY (mount point m2). The registered session is the
    second incarnation; node 1 still lists the first one; after the teardown node 0 lists nothing under "Sa". -/
example :
    let w := run (World.init 2) [.connect "a" 0 "idX" "m" true 60 none, .gossipAll, .drop "a", .loseGossip 0 1,
                                 .connect "a" 0 "idY" "m2" true 60 none]
    ((w.node 0).reg.map (fun s => (s.id, s.client, s.mount)) = [("Sa", "idY", "m2")]) ∧
    ((sessAll (w.node 0).dist).map (fun md => (md.id, md.client)) = [("Sa", "idY")]) ∧
    ((sessAll (w.node 1).dist).map (fun md => (md.id, md.client)) = [("Sa", "idX")]) ∧
    (∀ s ∈ (w.node 0).reg, (sessAll ((teardown w 0 s).1.node 0).dist).map (·.id) = []) := by decide +kernel

end Wasp.Broker
