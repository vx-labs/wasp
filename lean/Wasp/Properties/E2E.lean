import Wasp.Model.Broker
import Wasp.Properties.C01
import Wasp.Properties.C07
import Wasp.Proofs.BrokerT6
/-!
# C01 / C07 end to end on the broker model

The trie-level theorems (C01_walk_exact, C07_match_exact, C19 refinement) say the stores answer exactly by MQTT
matching; `C01_byPattern` / `C07_get` carry that to the replicated stores. This file composes them with the packet
pipeline of the broker model (accept → publish job → distribute → log → scheduler → writer `send`; SUBSCRIBE →
store → SUBACK → retained replay), so that the statement is about the PACKETS clients see:

* a QoS 0 publish on a one-node cluster produces exactly one PUBLISH per live stored subscription whose filter
  matches the (mount-prefixed) topic and whose session is registered — with the topic the publisher used and the
  payload intact, to that session's connection — and nothing else;
* a SUBSCRIBE produces the SUBACK followed by exactly one retained PUBLISH per live retained message whose topic
  matches the (mount-prefixed) filter.
QoS 0 subscriptions are assumed so that the writer needs no packet identifier (QoS 1/2 deliveries: `C02_send_one'`).
-/
namespace Wasp.Broker
open Wasp.Dist Wasp.Topic Wasp.Crdt Wasp.Broker.AgentT6

/- `deliveries0` (what `send` writes for QoS 0 recipients: one PUBLISH per recipient whose session is registered)
   is defined in Wasp/Proofs/BrokerT6.lean, in namespace `Wasp.Broker`. -/

theorem C01_send_all_qos0 (w : World) (i : Nat) (hi : i < w.nodes.length) (rcpt : List (String × Int)) (p : Pub)
    (hq : ∀ r ∈ rcpt, r.2 = 0) :
    (w.send i rcpt p).out = w.out ++ deliveries0 (w.node i) rcpt p :=
  send_all_qos0 i p rcpt w hi hq

/-- C01 end to end, one node, QoS 0: the packets written for a publish -/
theorem C01_e2e_single_node (w : World) (hlen : w.nodes.length = 1) (sid : String) (s : Sess)
    (hs : (w.node 0).sess sid = some s) (topic payload : String) (dup : Bool) (mid : Int)
    (hq0 : ∀ kl ∈ (w.node 0).dist.subs, ∀ u ∈ kl.2, u.qos = 0)
    (hpeer : ∀ kl ∈ (w.node 0).dist.subs, ∀ u ∈ kl.2, u.peer = (w.node 0).peer)
    (hlog : (w.node 0).logFailAll = false ∧ (w.node 0).logFailAt.contains (w.node 0).logCalls = false) :
    (w.process 0 sid (.publish topic payload 0 false dup mid)).1.out =
      w.out ++ deliveries0 (w.node 0)
        (((subByPattern (w.node 0).dist (prefixMountPoint s.mount topic)).filter (fun u => u.peer == (w.node 0).peer)).map
          (fun u => (u.session, u.qos)))
        ⟨prefixMountPoint s.mount topic, payload, 0, false, dup⟩ := by
  rw [process_publish0 w 0 sid s hs]
  exact distribute_single w hlen _ hq0 hpeer hlog

/-- … characterised by MQTT matching: a packet is written iff it is the PUBLISH for a live stored subscription whose
    filter matches the topic and whose session is registered -/
theorem C01_e2e_exact (w : World) (hlen : w.nodes.length = 1) (sid : String) (s : Sess)
    (hs : (w.node 0).sess sid = some s) (topic payload : String) (dup : Bool) (mid : Int)
    (hq0 : ∀ kl ∈ (w.node 0).dist.subs, ∀ u ∈ kl.2, u.qos = 0)
    (hpeer : ∀ kl ∈ (w.node 0).dist.subs, ∀ u ∈ kl.2, u.peer = (w.node 0).peer)
    (hlog : (w.node 0).logFailAll = false ∧ (w.node 0).logFailAt.contains (w.node 0).logCalls = false)
    (c : String) (pk : Pkt) :
    (c, pk) ∈ ((w.process 0 sid (.publish topic payload 0 false dup mid)).1.out.drop w.out.length) ↔
      ∃ kl ∈ (w.node 0).dist.subs, ∃ u ∈ kl.2,
        mqttMatch (levels kl.1) (levels (prefixMountPoint s.mount topic)) = true ∧ isAdded u.stamp = true ∧
        ∃ r, (w.node 0).sess u.session = some r ∧ r.conn = c ∧
          pk = Pkt.publish (trimMountPoint r.mount (prefixMountPoint s.mount topic)) payload 0 false dup 0 := by
  rw [drop_out _ _ _ (C01_e2e_single_node w hlen sid s hs topic payload dup mid hq0 hpeer hlog), mem_deliveries0]
  constructor
  · rintro ⟨x, hx, r, hr, hc, hp⟩
    obtain ⟨u, hu, rfl⟩ := List.mem_map.1 hx
    obtain ⟨kl, hkl, hm, hukl, ha⟩ := (C01_byPattern _ _ u).1 (List.mem_filter.1 hu).1
    exact ⟨kl, hkl, u, hukl, hm, ha, r, hr, hc, hp⟩
  · rintro ⟨kl, hkl, u, hukl, hm, ha, r, hr, hc, hp⟩
    refine ⟨(u.session, u.qos), List.mem_map.2 ⟨u, List.mem_filter.2 ⟨?_, ?_⟩, rfl⟩, r, hr, hc, hp⟩
    · exact (C01_byPattern _ _ u).2 ⟨kl, hkl, hm, hukl, ha⟩
    · simpa using hpeer kl hkl u hukl

/-- C07 end to end: SUBSCRIBE (one filter, QoS 0) is answered by the SUBACK and then one retained PUBLISH per live
    retained message matching the filter -/
theorem C07_e2e_subscribe (w : World) (i : Nat) (hi : i < w.nodes.length) (sid : String) (s : Sess)
    (hs : (w.node i).sess sid = some s) (hid : s.id = sid) (mid : Int) (f : String) :
    (w.process i sid (.subscribe mid [(f, 0)])).1.out =
      w.out ++ [(s.conn, Pkt.suback mid [0])] ++
        (topicGet (w.node i).dist (prefixMountPoint s.mount f)).map (fun r =>
          (s.conn, Pkt.publish (trimMountPoint s.mount r.topic) r.payload 0 r.retain r.dup 0)) := by
  obtain ⟨hcm, htop, hout, hlen⟩ := subStep_frame w i hi sid (prefixMountPoint s.mount f, 0)
  have hsess : (((subStep w i sid (prefixMountPoint s.mount f, 0)).node i).sess sid).map
      (fun s => (s.conn, s.mount)) = some (s.conn, s.mount) := by rw [hcm sid, hs]; rfl
  have htg : topicGet ((subStep w i sid (prefixMountPoint s.mount f, 0)).node i).dist (prefixMountPoint s.mount f) =
      topicGet (w.node i).dist (prefixMountPoint s.mount f) := by simp only [topicGet, htop]
  rw [process_subscribe hs]
  simp only [List.map_cons, List.map_nil, List.foldl_cons, List.foldl_nil]
  rw [replayStep_qos0 _ i (by rw [AgentC.emit_length, hlen]; exact hi) sid s.conn s.mount _ (by rw [AgentC.emit_node]; exact hsess),
    AgentC.emit_node, htg, AgentC.emit_out, hout]

/-- non-vacuity: two subscribers with overlapping filters and a third whose filter does not match -/
example :
    let w0 := (((World.init 1).connect "p" 0 "idp" "mp" true 60 none).connect "a" 0 "ida" "mp" true 60 none).connect "b" 0 "idb" "mp" true 60 none
    let w1 := (w0.clientPacket "a" (.subscribe 1 [("x/#", 0)])).clientPacket "b" (.subscribe 2 [("y", 0), ("+/z", 0)])
    let w2 := { w1 with out := [] }
    (w2.clientPacket "p" (.publish "x/z" "01" 0 false false 0)).out =
      [("a", Pkt.publish "x/z" "01" 0 false false 0), ("b", Pkt.publish "x/z" "01" 0 false false 0)] := by
  decide +kernel

end Wasp.Broker
