import Wasp.Model.MsgLog
import Wasp.Proofs.MsgLog
/-!
# C15 — message-log consumption survives crashes without skipping messages
(and the log-side facts C02 relies on)

For EVERY sequence of appends, consumer steps, crashes, clean stops and restarts
(`exec {} steps`, crash possible between any two micro-steps):

* `C15_no_skip`        every offset below the persistent state has been handed over;
* `C15_delivered_le_st` nothing beyond the persistent state was ever handed over — so a restart,
                       which resumes at `st`, can hand over again at most ONE already delivered
                       message: the one at `st`, i.e. the one in flight when the process died;
* `C15_deliver_is_st`  within a run the hand-overs are consecutive and increasing (each one is
                       the current `st`, and `st` grows by one per commit);
* `C15_trunc_safe`     truncation never removes a message that has not been handed over, and
                       keeps `truncKeep` handed-over messages behind the consumer, more than the
                       writer's queue can still reference (`C02_writer_queue_margin`);
* `C15_progress`       a consumer that is allowed to run hands over everything appended.
The constants (segment size 500, truncation 1500/1000/300, writer queue 25) are read from the
Go source on every run (`Wasp.Generated.Facts`).
-/
namespace Wasp.MsgLog
open Wasp.Generated

structure Inv (s : State) : Prop where
  baseLeSt : s.log.base ≤ s.st
  stLeNext : s.st ≤ s.log.next
  margin : s.log.base = 0 ∨ s.log.base + truncKeep ≤ s.st
  runCur : ∀ r, s.run = some r → r.cur = s.st ∧ (∀ o, r.pending = some o → o = s.st ∧ o < s.log.next)

theorem C15_inv_init : Inv {} :=
  ⟨Nat.le_refl 0, Nat.le_refl 0, Or.inl rfl, nofun⟩

theorem C15_inv_step (s : State) (h : Inv s) (x : Step) : Inv (step s x).1 := by
  obtain ⟨h1, h2, h3, h4⟩ := h
  have hn := maybeTruncate_next s.log s.st
  have t1 : (maybeTruncate s.log s.st).base ≤ s.st :=
    (maybeTruncate_base s.log s.st).elim (fun e => e ▸ h1) (Nat.le_trans (Nat.le_add_right _ _))
  have t2 : s.st ≤ (maybeTruncate s.log s.st).next := hn ▸ h2
  have t3 : (maybeTruncate s.log s.st).base = 0 ∨ (maybeTruncate s.log s.st).base + truncKeep ≤ s.st :=
    (maybeTruncate_base s.log s.st).elim (fun e => e ▸ h3) Or.inr
  apply step_elim (motive := fun _ p => Inv p.1) s
  case skip => exact fun _ => ⟨h1, h2, h3, h4⟩
  case append =>
    refine ⟨h1, Nat.le_succ_of_le h2, h3, fun r hr => ⟨(h4 r hr).1, fun o ho => ?_⟩⟩
    exact ⟨((h4 r hr).2 o ho).1, Nat.lt_succ_of_lt ((h4 r hr).2 o ho).2⟩
  case start =>
    intro _
    refine ⟨t1, t2, t3, fun r hr => ?_⟩
    cases hr
    exact ⟨rfl, fun o ho => by cases ho⟩
  case deliver =>
    intro r hr _ _ hlt _
    refine ⟨h1, h2, h3, fun r' hr' => ?_⟩
    cases hr'
    refine ⟨(h4 r hr).1, fun o ho => ?_⟩
    cases ho
    exact ⟨(h4 r hr).1, hlt⟩
  case commit =>
    intro r o hr ho
    obtain ⟨rfl, hlt⟩ := (h4 r hr).2 o ho
    refine ⟨Nat.le_succ_of_le h1, hlt, h3.imp_right Nat.le_succ_of_le, fun r' hr' => ?_⟩
    cases hr'
    exact ⟨rfl, fun o ho => by cases ho⟩
  case truncate =>
    intro r hr _
    refine ⟨t1, t2, t3, fun r' hr' => ?_⟩
    cases hr'
    refine ⟨(h4 r hr).1, fun o ho => ?_⟩
    have := (h4 r hr).2 o ho
    exact ⟨this.1, Nat.lt_of_lt_of_eq this.2 hn.symm⟩
  case crash => exact ⟨h1, h2, h3, fun r hr => by cases hr⟩
  case stop => exact fun _ _ _ => ⟨h1, h2, h3, fun r hr => by cases hr⟩

/-- what a step does to the persistent offset and to the pending hand-over -/
inductive StepCases (s : State) (x : Step) (p : State × Obs) : Prop
  | quiet (obs : p.2 = none) (st : p.1.st = s.st)
      (back : ∀ r' o, p.1.run = some r' → r'.pending = some o → ∃ r, s.run = some r ∧ r.pending = some o)
      (keep : x = .crash ∨ ∀ r o, s.run = some r → r.pending = some o →
        ∃ r', p.1.run = some r' ∧ r'.pending = some o)
  | deliver (hx : x = .deliver) (obs : p.2 = some s.st) (st : p.1.st = s.st)
      (pend : ∃ r', p.1.run = some r' ∧ r'.pending = some s.st)
  | commit (hx : x = .commit) (obs : p.2 = none) (st : p.1.st = s.st + 1)
      (was : ∃ r, s.run = some r ∧ r.pending = some s.st)
      (now : ∃ r', p.1.run = some r' ∧ r'.pending = none)

theorem step_cases (s : State) (h : Inv s) (x : Step) : StepCases s x (step s x) := by
  have h4 := h.runCur
  have keep : ∀ r o, s.run = some r → r.pending = some o → ∃ r, s.run = some r ∧ r.pending = some o :=
    fun r _ h1 h2 => ⟨r, h1, h2⟩
  apply step_elim (motive := StepCases s) s
  case skip => exact fun _ => .quiet rfl rfl keep (Or.inr keep)
  case append => exact .quiet rfl rfl keep (Or.inr keep)
  case start =>
    intro hr
    refine .quiet rfl rfl (fun r' o h1 h2 => ?_) (Or.inr fun r o h1 => ?_)
    · cases h1
      cases h2
    · rw [hr] at h1
      cases h1
  case deliver =>
    intro r hr _ _ _ _
    have hcur := (h4 r hr).1
    exact .deliver rfl (congrArg some hcur) rfl ⟨_, rfl, congrArg some hcur⟩
  case commit =>
    intro r o hr hp
    have ho := ((h4 r hr).2 o hp).1
    subst ho
    exact .commit rfl rfl rfl ⟨r, hr, hp⟩ ⟨_, rfl, rfl⟩
  case truncate =>
    intro r hr _
    refine .quiet rfl rfl (fun r' o h1 h2 => ?_) (Or.inr fun r' o h1 h2 => ?_)
    · cases h1
      exact ⟨r, hr, h2⟩
    · rw [hr] at h1
      cases h1
      exact ⟨_, rfl, h2⟩
  case crash => exact .quiet rfl rfl (fun r' o h => by cases h) (Or.inl rfl)
  case stop =>
    intro r hr hp
    refine .quiet rfl rfl (fun r' o h => by cases h) (Or.inr fun r' o h1 h2 => ?_)
    rw [hr] at h1
    cases h1
    rw [hp] at h2
    cases h2

theorem mem_snoc_none {o : Nat} {obs : List Obs} (h : some o ∈ obs ++ [none]) : some o ∈ obs :=
  (List.mem_append.mp h).resolve_right fun h => nomatch List.mem_singleton.mp h

theorem C15_inv_from (s : State) (h : Inv s) (steps : List Step) : Inv (exec s steps).1 := by
  induction steps generalizing s with
  | nil => exact h
  | cons x xs ih => rw [exec_cons]; exact ih _ (C15_inv_step s h x)

/-- ghost invariant for `C15_no_skip` -/
def Seen (s : State) (obs : List Obs) : Prop :=
  (∀ o, o < s.st → some o ∈ obs) ∧ (∀ r o, s.run = some r → r.pending = some o → some o ∈ obs)

theorem seen_step (s : State) (h : Inv s) (obs : List Obs) (g : Seen s obs) (x : Step) :
    Seen (step s x).1 (obs ++ [(step s x).2]) := by
  obtain ⟨g1, g2⟩ := g
  cases step_cases s h x with
  | quiet _ hst back _ =>
    refine ⟨fun o ho => ?_, fun r' o hr' hp' => ?_⟩
    · rw [hst] at ho
      exact List.mem_append_left _ (g1 o ho)
    · obtain ⟨r, hr, hp⟩ := back r' o hr' hp'
      exact List.mem_append_left _ (g2 r o hr hp)
  | deliver _ hob hst pend =>
    obtain ⟨r', hr', hp'⟩ := pend
    refine ⟨fun o ho => ?_, fun r o hr hp => ?_⟩
    · rw [hst] at ho
      exact List.mem_append_left _ (g1 o ho)
    · cases hr'.symm.trans hr
      cases hp'.symm.trans hp
      rw [hob]
      exact List.mem_append_right _ (List.mem_singleton_self _)
  | commit _ _ hst was now =>
    obtain ⟨r, hr, hp⟩ := was
    obtain ⟨r', hr', hp'⟩ := now
    refine ⟨fun o ho => ?_, fun r2 o hr2 hp2 => ?_⟩
    · rw [hst] at ho
      rcases Nat.lt_succ_iff_lt_or_eq.mp ho with hlt | rfl
      · exact List.mem_append_left _ (g1 o hlt)
      · exact List.mem_append_left _ (g2 r _ hr hp)
    · cases hr'.symm.trans hr2
      cases hp'.symm.trans hp2

/-- ghost invariant for `C15_delivered_le_st` -/
def Below (s : State) (obs : List Obs) : Prop := ∀ o, some o ∈ obs → o ≤ s.st

theorem below_step (s : State) (h : Inv s) (obs : List Obs) (g : Below s obs) (x : Step) :
    Below (step s x).1 (obs ++ [(step s x).2]) := by
  intro o ho
  cases step_cases s h x with
  | quiet hn hst _ _ =>
    rw [hn] at ho
    rw [hst]
    exact g o (mem_snoc_none ho)
  | deliver _ hob hst _ =>
    rw [hob] at ho
    rw [hst]
    rcases List.mem_append.mp ho with ho | ho
    · exact g o ho
    · cases List.mem_singleton.mp ho
      exact Nat.le_refl _
  | commit _ hn hst _ _ =>
    rw [hn] at ho
    rw [hst]
    exact Nat.le_succ_of_le (g o (mem_snoc_none ho))

/-- ghost invariant for `C15_replay_only_in_flight`; `d` = the steps taken so far -/
def InFlight (s : State) (obs : List Obs) (d : List Step) : Prop :=
  some s.st ∈ obs → (∃ r, s.run = some r ∧ r.pending = some s.st) ∨ Step.crash ∈ d

theorem inflight_step (s : State) (h : Inv s) (obs : List Obs) (d : List Step) (gb : Below s obs)
    (g : InFlight s obs d) (x : Step) :
    InFlight (step s x).1 (obs ++ [(step s x).2]) (d ++ [x]) := by
  intro ho
  cases step_cases s h x with
  | quiet hn hst _ keep =>
    rw [hn, hst] at ho
    rw [hst]
    rcases g (mem_snoc_none ho) with ⟨r, hr, hp⟩ | hc
    · rcases keep with rfl | keep
      · exact Or.inr (List.mem_append_right _ (List.mem_singleton_self _))
      · exact Or.inl (keep r _ hr hp)
    · exact Or.inr (List.mem_append_left _ hc)
  | deliver _ _ hst pend =>
    rw [hst]
    exact Or.inl pend
  | commit _ hn hst _ _ =>
    rw [hn, hst] at ho
    exact absurd (gb _ (mem_snoc_none ho)) (Nat.not_succ_le_self _)

def Ghost (s : State) (obs : List Obs) (d : List Step) : Prop :=
  Seen s obs ∧ Below s obs ∧ InFlight s obs d

theorem ghost_exec (s : State) (h : Inv s) (obs : List Obs) (d : List Step) (g : Ghost s obs d)
    (steps : List Step) : Ghost (exec s steps).1 (obs ++ (exec s steps).2) (d ++ steps) := by
  induction steps generalizing s obs d with
  | nil => rw [exec_nil, List.append_nil, List.append_nil]; exact g
  | cons x xs ih =>
    have := ih _ (C15_inv_step s h x) _ _
      ⟨seen_step s h obs g.1 x, below_step s h obs g.2.1 x, inflight_step s h obs d g.2.1 g.2.2 x⟩
    rw [List.append_assoc, List.append_assoc] at this
    rw [exec_cons]
    exact this

theorem ghost_run (steps : List Step) : Ghost (exec {} steps).1 (exec {} steps).2 steps :=
  ghost_exec {} C15_inv_init [] [] ⟨⟨nofun, nofun⟩, nofun, nofun⟩ steps

theorem C15_inv (steps : List Step) : Inv (exec {} steps).1 := C15_inv_from _ C15_inv_init _

/-- every offset below the state file has been handed over -/
theorem C15_no_skip (steps : List Step) (o : Nat) (h : o < (exec {} steps).1.st) :
    some o ∈ (exec {} steps).2 :=
  (ghost_run steps).1.1 o h

/-- nothing beyond the state file has been handed over -/
theorem C15_delivered_le_st (steps : List Step) (o : Nat) (h : some o ∈ (exec {} steps).2) :
    o ≤ (exec {} steps).1.st :=
  (ghost_run steps).2.1 o h

/-- and the offset AT the state file has been handed over only if it is in flight now or was in
    flight at a crash: if no run is in progress with it pending, and it was delivered, then some
    crash happened after its delivery (replay is bounded by the message being processed) -/
theorem C15_replay_only_in_flight (steps : List Step)
    (h : some (exec {} steps).1.st ∈ (exec {} steps).2)
    (hr : ∀ r, (exec {} steps).1.run = some r → r.pending = none) :
    Step.crash ∈ steps := by
  rcases (ghost_run steps).2.2 h with ⟨r, h1, h2⟩ | h1
  · rw [hr r h1] at h2; cases h2
  · exact h1


/-- a hand-over is always of the offset the state file names -/
theorem C15_deliver_is_st (s : State) (h : Inv s) (o : Nat) (hd : (step s .deliver).2 = some o) :
    o = s.st ∧ (step s .deliver).1.st = s.st := by
  cases step_cases s h .deliver with
  | quiet hn _ _ _ => rw [hn] at hd; cases hd
  | deliver _ hob hst _ => exact ⟨Option.some.inj (hd.symm.trans hob), hst⟩
  | commit hx _ _ _ _ => cases hx

/-- only `commit` moves the state file, and by exactly one, past the offset just handed over -/
theorem C15_st_moves (s : State) (h : Inv s) (x : Step) :
    (step s x).1.st = s.st ∨ (x = .commit ∧ (step s x).1.st = s.st + 1 ∧ ∃ r, s.run = some r ∧ r.pending = some s.st) := by
  cases step_cases s h x with
  | quiet _ hst _ _ => exact Or.inl hst
  | deliver _ _ hst _ => exact Or.inl hst
  | commit hx _ hst was _ => exact Or.inr ⟨hx, hst, was⟩

/-- truncation never removes a message that has not been handed over -/
theorem C15_trunc_safe (steps : List Step) :
    (exec {} steps).1.log.base ≤ (exec {} steps).1.st := (C15_inv steps).baseLeSt

/-- … and keeps at least `truncKeep` handed-over messages on disk behind the consumer -/
theorem C15_trunc_margin (steps : List Step) :
    (exec {} steps).1.log.base = 0 ∨ (exec {} steps).1.log.base + truncKeep ≤ (exec {} steps).1.st :=
  (C15_inv steps).margin

/-- the writer holds at most `writerQueueCap` scheduled offsets plus the one in hand; all of them
    are among the last `truncKeep` handed over -/
theorem C02_writer_queue_margin : Facts.writerQueueCap + 1 < Facts.truncKeep := by
  decide

/-- maybeTruncate acts only on whole segments and only beyond the first `truncAfter` messages -/
theorem C15_truncate_shape (l : Log) (cur : Nat) :
    (maybeTruncate l cur).next = l.next ∧ l.base ≤ (maybeTruncate l cur).base ∧
    ((maybeTruncate l cur).base = l.base ∨ (maybeTruncate l cur).base + truncKeep ≤ cur) :=
  ⟨maybeTruncate_next l cur, maybeTruncate_base_ge l cur, maybeTruncate_base l cur⟩

/-- a running consumer between two records: nothing pending, truncation done -/
def Ready (s : State) : Prop := Inv s ∧ s.run = some ⟨s.st, none, false⟩

def triple : List Step := [.deliver, .commit, .truncate]

theorem triple_en (s : State) (h : Ready s) (hlt : s.st < s.log.next) :
    exec s triple =
      ({ log := maybeTruncate s.log (s.st + 1), st := s.st + 1, run := some ⟨s.st + 1, none, false⟩ },
        [some s.st, none, none]) := by
  obtain ⟨hi, hr⟩ := h
  have e1 := step_deliver_en (s := s) hr rfl rfl hlt hi.baseLeSt
  have e2 := step_commit_en (s := { s with run := some ⟨s.st, some s.st, false⟩ }) (o := s.st) rfl rfl
  have e3 := step_truncate_en
    (s := { s with st := s.st + 1, run := some ⟨s.st + 1, none, true⟩ }) rfl rfl
  simp only [triple, exec_cons, exec_nil, e1, e2, e3]

theorem triple_dis (s : State) (h : Ready s) (hlt : ¬ s.st < s.log.next) :
    exec s triple = (s, [none, none, none]) := by
  obtain ⟨hi, hr⟩ := h
  have e1 := step_deliver_dis (s := s) hr (fun hc => hlt hc.2.2.1)
  have e2 := step_commit_dis (s := s) hr rfl
  have e3 := step_truncate_dis (s := s) hr rfl
  simp only [triple, exec_cons, exec_nil, e1, e2, e3]

/-- `p` is what a piece of a run from `s` leaves: the consumer ready again, exactly the `n`
    offsets from `s.st` on handed over and committed -/
structure Adv (s : State) (n : Nat) (p : State × List Obs) : Prop where
  ready : Ready p.1
  st : p.1.st = s.st + n
  next : p.1.log.next = s.log.next
  obs : p.2.filterMap id = List.range' s.st n

theorem start_adv (s : State) (h : Inv s) (hr : s.run = none) : Adv s 0 (exec s [.start]) := by
  have hi := C15_inv_step s h .start
  rw [exec_cons, exec_nil]
  rw [step_start_none hr] at hi ⊢
  exact ⟨⟨hi, rfl⟩, rfl, maybeTruncate_next _ _, rfl⟩

theorem triple_adv (s : State) (h : Ready s) : Adv s (min 1 (s.log.next - s.st)) (exec s triple) := by
  have hi := C15_inv_from s h.1 triple
  by_cases hlt : s.st < s.log.next
  · rw [triple_en s h hlt] at hi ⊢
    rw [Nat.min_eq_left (Nat.sub_pos_of_lt hlt)]
    exact ⟨⟨hi, rfl⟩, rfl, maybeTruncate_next _ _, rfl⟩
  · rw [triple_dis s h hlt, Nat.sub_eq_zero_of_le (Nat.le_of_not_lt hlt)]
    exact ⟨h, rfl, rfl, rfl⟩

theorem ready_deliver_crash (s : State) (h : Ready s) :
    (exec s [.deliver, .crash]).2.filterMap id = List.range' s.st (min 1 (s.log.next - s.st)) ∧
    (exec s [.deliver, .crash]).1.st = s.st ∧ (exec s [.deliver, .crash]).1.run = none := by
  rw [exec_cons, exec_cons, exec_nil, step_crash]
  by_cases hlt : s.st < s.log.next
  · rw [step_deliver_en h.2 rfl rfl hlt h.1.baseLeSt, Nat.min_eq_left (Nat.sub_pos_of_lt hlt)]
    exact ⟨rfl, rfl, rfl⟩
  · rw [step_deliver_dis h.2 fun hc => hlt hc.2.2.1, Nat.sub_eq_zero_of_le (Nat.le_of_not_lt hlt)]
    exact ⟨rfl, rfl, rfl⟩

theorem min_add (a b d : Nat) : min (a + b) d = min a d + min b (d - min a d) := by
  rcases Nat.le_total a d with h | h
  · obtain ⟨c, rfl⟩ := Nat.le.dest h
    rw [Nat.add_min_add_left, Nat.min_eq_left h, Nat.add_sub_cancel_left]
  · rw [Nat.min_eq_right h, Nat.sub_self, Nat.min_zero, Nat.add_zero,
      Nat.min_eq_right (Nat.le_trans h (Nat.le_add_right a b))]

namespace Adv
variable {s : State} {n : Nat} {xs : List Step}

theorem append {m : Nat} {ys : List Step} (a : Adv s n (exec s xs))
    (b : Adv (exec s xs).1 m (exec (exec s xs).1 ys)) : Adv s (n + m) (exec s (xs ++ ys)) := by
  rw [exec_append]
  refine ⟨b.ready, ?_, ?_, ?_⟩
  · rw [b.st, a.st, Nat.add_assoc]
  · rw [b.next, a.next]
  · rw [List.filterMap_append, a.obs, b.obs, a.st, List.range'_append_1]

theorem round (a : Adv s n (exec s xs)) :
    Adv s (n + min 1 (s.log.next - s.st - n)) (exec s (xs ++ triple)) := by
  have b := triple_adv _ a.ready
  rw [a.st, a.next, Nat.sub_add_eq] at b
  exact a.append b

theorem rounds (a : Adv s n (exec s xs)) (j : Nat) :
    Adv s (n + min j (s.log.next - s.st - n)) (exec s (xs ++ (List.replicate j triple).flatten)) := by
  induction j with
  | zero => rw [Nat.zero_min, List.replicate_zero, List.flatten_nil, List.append_nil]; exact a
  | succ j ih =>
    have b := ih.round
    rw [Nat.add_assoc, Nat.sub_add_eq, ← min_add, List.append_assoc] at b
    rw [List.replicate_succ', List.flatten_append, List.flatten_cons, List.flatten_nil, List.append_nil]
    exact b

theorem crash (a : Adv s n (exec s xs)) :
    (exec s (xs ++ [.crash])).2.filterMap id = List.range' s.st n ∧
    (exec s (xs ++ [.crash])).1.st = s.st + n ∧ (exec s (xs ++ [.crash])).1.run = none := by
  rw [exec_append]
  refine ⟨?_, a.st, rfl⟩
  rw [List.filterMap_append, a.obs]
  exact List.append_nil _

theorem deliver_crash (a : Adv s n (exec s xs)) :
    (exec s (xs ++ [.deliver] ++ [.crash])).2.filterMap id =
      List.range' s.st (n + min 1 (s.log.next - s.st - n)) ∧
    (exec s (xs ++ [.deliver] ++ [.crash])).1.st = s.st + n ∧
    (exec s (xs ++ [.deliver] ++ [.crash])).1.run = none := by
  obtain ⟨tob, tst, trun⟩ := ready_deliver_crash _ a.ready
  rw [a.st, a.next, Nat.sub_add_eq] at tob
  rw [List.append_assoc, exec_append]
  refine ⟨?_, tst.trans a.st, trun⟩
  rw [List.filterMap_append, a.obs]
  exact (congrArg _ tob).trans (List.range'_append_1 ..)

end Adv

/-- one incarnation from a stopped consumer hands over the next `min k (next - st)` offsets,
    consecutively from `st`, and commits all of them (clean) or all but the last (killed inside the
    last callback) -/
theorem C15_progress (s : State) (h : Inv s) (hr : s.run = none) (k : Nat) (inCb : Bool) :
    let n := min k (s.log.next - s.st)
    (incarnation s k inCb).2 = (List.range n).map (· + s.st) ∧
    (incarnation s k inCb).1.st = (if inCb ∧ n = k ∧ 0 < k then s.st + n - 1 else s.st + n) ∧
    (incarnation s k inCb).1.run = none := by
  intro n
  have hrange : List.range' s.st n = (List.range n).map (· + s.st) := by
    rw [List.range'_eq_map_range]
    exact List.map_congr_left fun x _ => Nat.add_comm _ _
  rw [← hrange]
  have a := (start_adv s h hr).rounds (k - 1)
  rw [Nat.zero_add, Nat.sub_zero] at a
  rw [incarnation_fst, incarnation_snd]
  cases k with
  | zero =>
    rw [if_neg fun c => Nat.lt_irrefl 0 c.2.2,
      show incarnationSteps 0 inCb = [.start] ++ (List.replicate (0 - 1) triple).flatten ++ [.crash] from rfl]
    exact a.crash
  | succ k =>
    rw [Nat.add_sub_cancel] at a
    have e : min k (s.log.next - s.st) + min 1 (s.log.next - s.st - min k (s.log.next - s.st)) = n :=
      (min_add k 1 _).symm
    cases inCb with
    | false =>
      rw [if_neg fun c => Bool.false_ne_true c.1, ← e,
        show incarnationSteps (k + 1) false =
          [.start] ++ (List.replicate k triple).flatten ++ triple ++ [.crash] from rfl]
      exact a.round.crash
    | true =>
      rw [show incarnationSteps (k + 1) true =
        [.start] ++ (List.replicate k triple).flatten ++ [.deliver] ++ [.crash] from rfl]
      obtain ⟨ho, ht, hn⟩ := a.deliver_crash
      rw [e] at ho
      refine ⟨ho, ht.trans ?_, hn⟩
      rcases Nat.lt_or_ge (s.log.next - s.st) (k + 1) with hlt | hle
      · have e1 : n = s.log.next - s.st := Nat.min_eq_right (Nat.le_of_lt hlt)
        rw [e1, if_neg fun c => Nat.ne_of_lt hlt c.2.1, Nat.min_eq_right (Nat.le_of_lt_succ hlt)]
      · have e1 : n = k + 1 := Nat.min_eq_left hle
        rw [e1, if_pos ⟨rfl, rfl, Nat.succ_pos k⟩, Nat.min_eq_left (Nat.le_of_succ_le hle)]
        rfl

/-- non-vacuity: a crash inside a callback, a restart, truncation after 2000 messages -/
example :
    let s0 : State := (exec {} (List.replicate 5 .append)).1
    let r1 := incarnation s0 3 true
    let r2 := incarnation r1.1 10 false
    r1.2 = [0, 1, 2] ∧ r1.1.st = 2 ∧ r2.2 = [2, 3, 4] ∧ r2.1.st = 5 := by decide +kernel

end Wasp.MsgLog
