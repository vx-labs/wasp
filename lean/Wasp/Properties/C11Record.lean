import Wasp.Properties.C13
import Wasp.Properties.Reachable
import Wasp.Proofs.BrokerT10
import Wasp.Proofs.BrokerT19
/-!
# C11 — the record of a session that ends goes away, whatever other records carry its client identifier

Two live records can carry one client identifier on a node (a CONNECT accepted on another node before the gossip of the
earlier session arrived). `shutdownSession` used to decide by a look-up BY CLIENT IDENTIFIER whether to remove the
ending session's record: the look-up may return either record (Go map order), and when it returned the other one the
ending session's own record stayed listed for ever. The repaired code (and this model) removes the session's own record
whenever it is still there; the look-up only decides about the will.
-/
namespace Wasp.Broker
open Wasp.Dist Wasp.Broker.AgentA Wasp.Broker.AgentT19

/-- after the teardown no live record with the session's id is left on its node — under three facts: record ids are unique
    in the store; a live record under the session's id describes that session (same mount point and client identifier);
    and the stamp of that record is not ahead of the crdt clock (without it the statement is false:
    `C11_teardown_removes_record_counterexample` — the tombstone is stamped with the clock) -/
theorem C11_teardown_removes_record_of_clock (w : World) (i : Nat) (hi : i < w.nodes.length) (s : Sess)
    (hu : ((w.node i).dist.sessions.map (·.id)).Nodup)
    (hrec : ∀ md ∈ sessAll (w.node i).dist, md.id = s.id → md.mount = s.mount ∧ md.client = s.client)
    (hclk : ∀ md ∈ sessAll (w.node i).dist, md.id = s.id → md.added ≤ w.clock) :
    ∀ md ∈ sessAll ((teardown w i s).1.node i).dist, md.id ≠ s.id :=
  teardown_removes_record_of_clock w i hi s hu hrec hclk

/-- counterexample to the statement without `hclk`: clock 1000, the record was added at 2000 -/
theorem C11_teardown_removes_record_counterexample :
    let w : World := { nodes := [{ peer := 1, dist := { peer := 1, sessions := [⟨"S", "c", "m", 1, 0, none, 2000, 0⟩] },
                                   pool := initPool }] }
    let s : Sess := { id := "S", conn := "a", client := "c", mount := "m", keepalive := 60, will := none }
    0 < w.nodes.length ∧ ((w.node 0).dist.sessions.map (·.id)).Nodup ∧
    (∀ md ∈ sessAll (w.node 0).dist, md.id = s.id → md.mount = s.mount ∧ md.client = s.client) ∧
    ¬ (∀ md ∈ sessAll ((teardown w 0 s).1.node 0).dist, md.id ≠ s.id) := by decide +kernel

/-- … and the will is withheld exactly when another live record carries the client identifier -/
theorem C11_teardown_will_withheld_iff (w : World) (i : Nat) (hi : i < w.nodes.length) (s : Sess) :
    (teardown w i s).2 = true ↔
      ∃ md ∈ sessByClientID (w.node i).dist s.mount s.client, md.id ≠ s.id :=
  teardown_will_withheld_iff w i hi s

/-- non-vacuity, and the history that used to leave a ghost: two sessions with one client identifier on two nodes, each
    accepted before the other's gossip arrived; after the gossip the first one's connection is lost — its record is
    gone from its node, the other's stays -/
example :
    let w := run (World.init 2) [.connect "a" 0 "idX" "m" true 60 none, .connect "b" 1 "idX" "m" true 60 none, .gossipAll,
                                 .drop "a", .gossipAll]
    ((sessAll (w.node 0).dist).map (·.id) = ["Sb"]) ∧ ((sessAll (w.node 1).dist).map (·.id) = ["Sb"]) := by decide +kernel

end Wasp.Broker
