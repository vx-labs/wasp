import Wasp.Properties.E2E
import Wasp.Properties.Reachable2
import Wasp.Properties.C17E2E
import Wasp.Properties.C07
import Wasp.Properties.C13
import Wasp.Proofs.BrokerT10
/-!
# C07 and C13 end to end on the broker model

* C07: a retained publish is replayed to a later subscriber of the same mount point whose filter matches — exactly the
  last non-empty payload, flagged retained, under the topic name the publisher used; after a retained publish with an
  empty payload nothing is replayed for that topic.
* C13: when a connection is lost, the session's will is written to the registered sessions with a live matching
  subscription of the same mount point; after a clean DISCONNECT nothing but the close is written.

The C07 statements need the shape of the retained store (`TopOK`, Wasp/Proofs/BrokerT10.lean): one entry per topic, every
message stored under its own topic, every stored topic contains a '/'. `topOK_reachable` proves it of every node of
every reachable world (invariant `KInv`, one lemma per model function, as `GlobalInv`/`PInv`); the primed theorems
take it as a hypothesis instead of `Reachable` and the examples at the end of the C07 part show that none of its three
parts can be dropped there. No stamp hypothesis is needed: `topicSet`/`topicDelete` overwrite the local entry whatever
its stamp (only `mergeRetained` compares stamps).
-/
namespace Wasp.Broker
open Wasp.Dist Wasp.Topic Wasp.Crdt Wasp.Broker.AgentT10

/-! ## C07 -/

/-- what the subscriber is written after the retained publish: SUBACK, then the replay of the store -/
theorem C07_e2e_replay (w : World) (i : Nat) (hi : i < w.nodes.length)
    (psid : String) (ps : Sess) (hps : (w.node i).sess psid = some ps)
    (topic payload : String) (dup : Bool) (mid : Int)
    (ssid : String) (ss : Sess)
    (hss : ((w.process i psid (.publish topic payload 0 true dup mid)).1.node i).sess ssid = some ss)
    (f : String) (smid : Int) :
    (((w.process i psid (.publish topic payload 0 true dup mid)).1).process i ssid (.subscribe smid [(f, 0)])).1.out.drop
        (w.process i psid (.publish topic payload 0 true dup mid)).1.out.length =
      (ss.conn, Pkt.suback smid [0]) ::
        ((topicsGetAll (storeAfter w i (prefixMountPoint ps.mount topic) payload dup) (prefixMountPoint ss.mount f)).filter
          (fun r => isAdded r.stamp)).map (fun r =>
          (ss.conn, Pkt.publish (trimMountPoint ss.mount r.topic) r.payload 0 r.retain r.dup 0)) := by
  obtain ⟨hlen, htop⟩ := retained_world w i hi psid ps hps topic payload dup mid
  have hsub := C07_e2e_subscribe (w.process i psid (.publish topic payload 0 true dup mid)).1 i (by rw [hlen]; exact hi)
    ssid ss hss (sess_some_id hss) smid f
  rw [AgentT6.drop_out _ _ _ (hsub.trans (List.append_assoc _ _ _))]
  simp only [topicGet, htop, List.singleton_append, storeAfter]

/-- publish retained (non-empty payload), then subscribe: needs only a positive crdt clock -/
theorem C07_e2e_retained_then_subscribe' (w : World) (hclk : 0 < w.clock) (i : Nat) (hi : i < w.nodes.length)
    (psid : String) (ps : Sess) (hps : (w.node i).sess psid = some ps) (hwf : wfMount ps.mount)
    (topic payload : String) (hne : payload ≠ "") (dup : Bool) (mid : Int)
    (ssid : String) (ss : Sess) (hm : ss.mount = ps.mount)
    (hss : ((w.process i psid (.publish topic payload 0 true dup mid)).1.node i).sess ssid = some ss)
    (f : String) (hmatch : mqttMatch (levels f) (levels topic) = true) (smid : Int) :
    (ss.conn, Pkt.publish topic payload 0 true dup 0) ∈
      (((w.process i psid (.publish topic payload 0 true dup mid)).1).process i ssid (.subscribe smid [(f, 0)])).1.out := by
  apply List.mem_of_mem_drop (i := (w.process i psid (.publish topic payload 0 true dup mid)).1.out.length)
  rw [C07_e2e_replay w i hi psid ps hps topic payload dup mid ssid ss hss f smid, storeAfter_set _ _ _ _ _ hne, hm]
  apply List.mem_cons_of_mem
  refine List.mem_map.mpr ⟨⟨prefixMountPoint ps.mount topic, payload, 0, true, dup, true, w.clock, 0⟩,
    List.mem_filter.mpr ⟨?_, ?_⟩, ?_⟩
  · simp only [topicsGetAll, List.mem_map, List.mem_filter]
    exact ⟨(_, _), ⟨topicsAssign_self _ _ _, by rw [C17_same_mount_match _ _ _ hwf]; exact hmatch⟩, rfl⟩
  · simp [Retained.stamp, isAdded, Wasp.Generated.isEntryAdded, Go.getLastAdded, Go.getLastDeleted, hclk]
  · simp only [C17_trim_prefix]

theorem C07_e2e_last_wins' (w : World) (i : Nat) (hT : TopOK (w.node i).dist.topics) (hi : i < w.nodes.length)
    (psid : String) (ps : Sess) (hps : (w.node i).sess psid = some ps) (hwf : wfMount ps.mount)
    (topic payload : String) (hne : payload ≠ "") (dup : Bool) (mid : Int)
    (ssid : String) (ss : Sess) (hm : ss.mount = ps.mount)
    (hss : ((w.process i psid (.publish topic payload 0 true dup mid)).1.node i).sess ssid = some ss)
    (f : String) (smid : Int) (pl : String) (q : Nat) (rt dp : Bool) (m : Int)
    (h : (ss.conn, Pkt.publish topic pl q rt dp m) ∈
      ((((w.process i psid (.publish topic payload 0 true dup mid)).1).process i ssid (.subscribe smid [(f, 0)])).1.out.drop
        (w.process i psid (.publish topic payload 0 true dup mid)).1.out.length)) :
    pl = payload := by
  rw [C07_e2e_replay w i hi psid ps hps topic payload dup mid ssid ss hss f smid, storeAfter_set _ _ _ _ _ hne, hm] at h
  have hT' := hT.assign (prefixMountPoint ps.mount topic)
    { topic := prefixMountPoint ps.mount topic, payload, qos := 0, retain := true, dup, added := w.clock, deleted := 0 }
    rfl (prefix_slash _ _)
  obtain ⟨r, hr, _, hpl⟩ := replay_entry _ hT' ps.mount hwf f topic _ _ pl q rt dp m h (by intros; simp)
  have := hT'.key_inj hr (topicsAssign_self _ _ _) rfl
  simp only [Prod.mk.injEq, true_and] at this
  rw [← hpl, this]

theorem C07_e2e_cleared' (w : World) (i : Nat) (hT : TopOK (w.node i).dist.topics) (hi : i < w.nodes.length)
    (psid : String) (ps : Sess) (hps : (w.node i).sess psid = some ps) (hwf : wfMount ps.mount)
    (topic : String) (dup : Bool) (mid : Int)
    (ssid : String) (ss : Sess) (hm : ss.mount = ps.mount)
    (hss : ((w.process i psid (.publish topic "" 0 true dup mid)).1.node i).sess ssid = some ss)
    (f : String) (smid : Int) (pl : String) (q : Nat) (rt dp : Bool) (m : Int) :
    (ss.conn, Pkt.publish topic pl q rt dp m) ∉
      ((((w.process i psid (.publish topic "" 0 true dup mid)).1).process i ssid (.subscribe smid [(f, 0)])).1.out.drop
        (w.process i psid (.publish topic "" 0 true dup mid)).1.out.length) := by
  intro h
  rw [C07_e2e_replay w i hi psid ps hps topic "" dup mid ssid ss hss f smid, storeAfter_clear, hm] at h
  have hT' := hT.assign (prefixMountPoint ps.mount topic)
    { topic := prefixMountPoint ps.mount topic, payload := "", qos := 0, retain := false, dup := false, added := 0, deleted := w.clock }
    rfl (prefix_slash _ _)
  obtain ⟨r, hr, hadd, _⟩ := replay_entry _ hT' ps.mount hwf f topic _ _ pl q rt dp m h (by intros; simp)
  have := hT'.key_inj hr (topicsAssign_self _ _ _) rfl
  simp only [Prod.mk.injEq, true_and] at this
  rw [this] at hadd
  simp [Retained.stamp, isAdded, Wasp.Generated.isEntryAdded, Go.getLastAdded, Go.getLastDeleted] at hadd


/-- C07 end to end: publish retained (non-empty payload), then subscribe -/
theorem C07_e2e_retained_then_subscribe (w : World) (hr : Reachable w) (i : Nat) (hi : i < w.nodes.length)
    (psid : String) (ps : Sess) (hps : (w.node i).sess psid = some ps) (hwf : wfMount ps.mount)
    (topic payload : String) (hne : payload ≠ "") (dup : Bool) (mid : Int)
    (ssid : String) (ss : Sess) (hm : ss.mount = ps.mount)
    (hss : ((w.process i psid (.publish topic payload 0 true dup mid)).1.node i).sess ssid = some ss)
    (f : String) (hmatch : mqttMatch (levels f) (levels topic) = true) (smid : Int) :
    (ss.conn, Pkt.publish topic payload 0 true dup 0) ∈
      (((w.process i psid (.publish topic payload 0 true dup mid)).1).process i ssid (.subscribe smid [(f, 0)])).1.out :=
  C07_e2e_retained_then_subscribe' w (reachable_inv w hr).clockPos i hi psid ps hps hwf topic payload hne dup mid ssid ss hm hss
    f hmatch smid

/-- … and the replay carries no OTHER payload for that topic: the last retained publish wins -/
theorem C07_e2e_last_wins (w : World) (hr : Reachable w) (i : Nat) (hi : i < w.nodes.length)
    (psid : String) (ps : Sess) (hps : (w.node i).sess psid = some ps) (hwf : wfMount ps.mount)
    (topic payload : String) (hne : payload ≠ "") (dup : Bool) (mid : Int)
    (ssid : String) (ss : Sess) (hm : ss.mount = ps.mount)
    (hss : ((w.process i psid (.publish topic payload 0 true dup mid)).1.node i).sess ssid = some ss)
    (f : String) (smid : Int) (pl : String) (q : Nat) (rt dp : Bool) (m : Int)
    (h : (ss.conn, Pkt.publish topic pl q rt dp m) ∈
      ((((w.process i psid (.publish topic payload 0 true dup mid)).1).process i ssid (.subscribe smid [(f, 0)])).1.out.drop
        (w.process i psid (.publish topic payload 0 true dup mid)).1.out.length)) :
    pl = payload :=
  C07_e2e_last_wins' w i (topOK_reachable w hr i) hi psid ps hps hwf topic payload hne dup mid ssid ss hm hss f smid pl q rt dp m h

/-- C07 end to end: a retained publish with an empty payload clears the topic — nothing is replayed for it -/
theorem C07_e2e_cleared (w : World) (hr : Reachable w) (i : Nat) (hi : i < w.nodes.length)
    (psid : String) (ps : Sess) (hps : (w.node i).sess psid = some ps) (hwf : wfMount ps.mount)
    (topic : String) (dup : Bool) (mid : Int)
    (ssid : String) (ss : Sess) (hm : ss.mount = ps.mount)
    (hss : ((w.process i psid (.publish topic "" 0 true dup mid)).1.node i).sess ssid = some ss)
    (f : String) (smid : Int) (pl : String) (q : Nat) (rt dp : Bool) (m : Int) :
    (ss.conn, Pkt.publish topic pl q rt dp m) ∉
      ((((w.process i psid (.publish topic "" 0 true dup mid)).1).process i ssid (.subscribe smid [(f, 0)])).1.out.drop
        (w.process i psid (.publish topic "" 0 true dup mid)).1.out.length) :=
  C07_e2e_cleared' w i (topOK_reachable w hr i) hi psid ps hps hwf topic dup mid ssid ss hm hss f smid pl q rt dp m

/-! ### non-vacuity, and the three parts of `TopOK` are needed in the primed theorems

`replayOf T topic payload f`: on a one-node cluster with publisher "p" and subscriber "a" in mount point "m" whose retained
store is `T`: "p" publishes `payload` retained on `topic`, then "a" subscribes to `f`; what "a" is written. -/

/-- a one-node world with two sessions of mount point "m" whose retained store is `T` -/
def e2eWorld (T : List (String × Retained)) : World :=
  let w := ((World.init 1).connect "p" 0 "idp" "m" true 60 none).connect "a" 0 "ida" "m" true 60 none
  w.setNode 0 { w.node 0 with dist := { (w.node 0).dist with topics := T } }

def replayOf (T : List (String × Retained)) (topic payload f : String) : List (String × Pkt) :=
  let w1 := ((e2eWorld T).process 0 "Sp" (.publish topic payload 0 true false 0)).1
  (w1.process 0 "Sa" (.subscribe 1 [(f, 0)])).1.out.drop w1.out.length

/-- well-shaped store: the old payload is replaced … -/
example : replayOf [("m/t", ⟨"m/t", "old", 0, true, false, true, 5, 0⟩)] "t" "new" "#" =
    [("a", Pkt.suback 1 [0]), ("a", Pkt.publish "t" "new" 0 true false 0)] := by decide +kernel

/-- … and cleared by an empty payload -/
example : replayOf [("m/t", ⟨"m/t", "old", 0, true, false, true, 5, 0⟩)] "t" "" "#" = [("a", Pkt.suback 1 [0])] := by decide +kernel

/-- `TopOK.slash` dropped (a key "m" without '/', unreachable): publishing on the empty name "" (stored as "m/") leaves the
    entry "m", which the filter "#" (stored as "m/#") matches and whose trimmed name is "" too — two payloads for "" -/
example : replayOf [("m", ⟨"m", "old", 0, true, false, true, 5, 0⟩)] "" "new" "#" =
    [("a", Pkt.suback 1 [0]), ("a", Pkt.publish "" "old" 0 true false 0), ("a", Pkt.publish "" "new" 0 true false 0)] := by
  decide +kernel

example : replayOf [("m", ⟨"m", "old", 0, true, false, true, 5, 0⟩)] "" "" "#" =
    [("a", Pkt.suback 1 [0]), ("a", Pkt.publish "" "old" 0 true false 0)] := by decide +kernel

/-- `TopOK.nodup` dropped: only the first entry of a duplicated key is overwritten -/
example : replayOf [("m/t", ⟨"m/t", "old1", 0, true, false, true, 5, 0⟩), ("m/t", ⟨"m/t", "old2", 0, true, false, true, 6, 0⟩)]
      "t" "new" "t" =
    [("a", Pkt.suback 1 [0]), ("a", Pkt.publish "t" "new" 0 true false 0), ("a", Pkt.publish "t" "old2" 0 true false 0)] := by
  decide +kernel

/-- `TopOK.own` dropped: a message stored under another key keeps being replayed under its own name -/
example : replayOf [("m/x", ⟨"m/t", "old", 0, true, false, true, 5, 0⟩)] "t" "new" "#" =
    [("a", Pkt.suback 1 [0]), ("a", Pkt.publish "t" "old" 0 true false 0), ("a", Pkt.publish "t" "new" 0 true false 0)] := by
  decide +kernel

/-! ## C13 -/

/-- C13: after a clean DISCONNECT only the close is written -/
theorem C13_e2e_clean_no_will (w : World) (i : Nat) (sid : String) (s : Sess) (hs : (w.node i).sess sid = some s)
    (hd : s.disconnected = true) : (w.shutdownSession i sid).out = w.out ++ [(s.conn, Pkt.closed)] := by
  rw [AgentD.shutdown_eq w i sid s hs]
  simp only [hd, if_true, ite_self]
  exact AgentD.teardown_out w i s

/-- what the three will theorems share: the subscriptions are QoS 0 and local; what the teardown of `s` leaves of node 0 -/
private theorem will_setup (w : World) (hr : Reachable w) (hlen : w.nodes.length = 1) (s : Sess)
    (hq0 : ∀ kl ∈ (w.node 0).dist.subs, ∀ u ∈ kl.2, u.qos = 0) :
    (w.node 0).dist.peer = (w.node 0).peer ∧
    (∀ kl ∈ (w.node 0).dist.subs, ∀ u ∈ kl.2, u.qos = 0 ∧ u.peer = (w.node 0).dist.peer) ∧
    (teardown w 0 s).1.nodes.length = 1 ∧
    ((teardown w 0 s).1.node 0).reg = (w.node 0).reg.filter (fun x => x.id != s.id) ∧
    ((teardown w 0 s).1.node 0).peer = (w.node 0).peer ∧
    ((teardown w 0 s).1.node 0).logFailAll = (w.node 0).logFailAll ∧
    ((teardown w 0 s).1.node 0).logFailAt = (w.node 0).logFailAt ∧
    ((teardown w 0 s).1.node 0).logCalls = (w.node 0).logCalls ∧
    ∀ kl ∈ ((teardown w 0 s).1.node 0).dist.subs, ∀ x ∈ kl.2, SubOld (w.node 0).dist.subs (w.node 0).dist.peer kl.1 x := by
  have hi : 0 < w.nodes.length := by omega
  have hdp : (w.node 0).dist.peer = (w.node 0).peer := (reachable_inv2 w hr).distPeer 0 hi
  have hqp : ∀ kl ∈ (w.node 0).dist.subs, ∀ u ∈ kl.2, u.qos = 0 ∧ u.peer = (w.node 0).dist.peer :=
    fun kl hkl u hu => ⟨hq0 kl hkl u hu, (reachable_subs_local w hr hlen kl hkl u hu).trans hdp.symm⟩
  obtain ⟨hlenW, hcore⟩ := teardown_core w 0 hi s
  simp only [core, Prod.mk.injEq] at hcore
  exact ⟨hdp, hqp, hlenW.trans hlen, hcore.2.1, hcore.1, hcore.2.2.2.1, hcore.2.2.2.2.1, hcore.2.2.2.2.2,
    teardown_subs w 0 hi s hqp⟩

/-- the world in which the will of `s` is published, and what the publication writes (one node, QoS 0) -/
theorem C13_e2e_will_out (w : World) (hr : Reachable w) (hlen : w.nodes.length = 1)
    (sid : String) (s : Sess) (hs : (w.node 0).sess sid = some s) (hd : s.disconnected = false)
    (wl : Will) (hw : s.will = some wl) (hq : wl.qos = 0) (hnr : wl.retain = false)
    (hq0 : ∀ kl ∈ (w.node 0).dist.subs, ∀ u ∈ kl.2, u.qos = 0)
    (hlog : (w.node 0).logFailAll = false ∧ (w.node 0).logFailAt.contains (w.node 0).logCalls = false) :
    (w.shutdownSession 0 sid).out = w.out ++ [(s.conn, Pkt.closed)] ++
      (if (teardown w 0 s).2 then [] else
        deliveries0 ((teardown w 0 s).1.node 0)
          (((subByPattern ((teardown w 0 s).1.node 0).dist (prefixMountPoint s.mount wl.topic)).filter
            (fun u => u.peer == (w.node 0).peer)).map (fun u => (u.session, u.qos)))
          ⟨prefixMountPoint s.mount wl.topic, wl.payload, 0, false, false⟩) := by
  obtain ⟨hdp, _, hlenW, _, hpeer, hla, hlat, hlc, hsubs⟩ := will_setup w hr hlen s hq0
  rw [AgentD.shutdown_eq w 0 sid s hs]
  by_cases hstop : (teardown w 0 s).2 = true
  · simp only [hstop, if_true, List.append_nil]
    exact AgentD.teardown_out w 0 s
  · simp only [hstop, hd, hw, Bool.false_eq_true, if_false]
    rw [hq, hnr, publishJob_noretain _ _ _ rfl,
      AgentT6.distribute_single (teardown w 0 s).1 hlenW _ ?_ ?_ ?_, AgentD.teardown_out, hpeer]
    · intro kl hkl u hu; exact (hsubs kl hkl u hu).1.1
    · intro kl hkl u hu; rw [hpeer, ← hdp]; exact (hsubs kl hkl u hu).1.2
    · rw [hla, hlat, hlc]; exact hlog

/-- C13 end to end (one node, QoS 0 subscriptions, log accepting): the connection of a session with a QoS 0,
    non-retained will is lost — what is written is the close of that connection and the will, under the will's topic
    name, to registered sessions of the same mount point -/
theorem C13_e2e_will_on_loss (w : World) (hr : Reachable w) (hlen : w.nodes.length = 1) (hf : (w.node 0).failed = false)
    (sid : String) (s : Sess) (hs : (w.node 0).sess sid = some s) (hd : s.disconnected = false)
    (wl : Will) (hw : s.will = some wl) (hq : wl.qos = 0) (hnr : wl.retain = false)
    (hm : ∀ r ∈ (w.node 0).reg, wfMount r.mount)
    (hq0 : ∀ kl ∈ (w.node 0).dist.subs, ∀ u ∈ kl.2, u.qos = 0)
    (hlog : (w.node 0).logFailAll = false ∧ (w.node 0).logFailAt.contains (w.node 0).logCalls = false)
    (c : String) (pk : Pkt)
    (h : (c, pk) ∈ ((w.shutdownSession 0 sid).out.drop w.out.length)) :
    (c = s.conn ∧ pk = Pkt.closed) ∨
    (∃ r ∈ (w.node 0).reg, r.id ≠ sid ∧ r.conn = c ∧ r.mount = s.mount ∧ pk = Pkt.publish wl.topic wl.payload 0 false false 0) := by
  have hid : s.id = sid := sess_some_id hs
  obtain ⟨hdp, _, _, hreg, _, _, _, _, hsubs⟩ := will_setup w hr hlen s hq0
  rw [AgentT6.drop_out _ _ _ ((C13_e2e_will_out w hr hlen sid s hs hd wl hw hq hnr hq0 hlog).trans (List.append_assoc _ _ _))] at h
  rcases List.mem_append.mp h with h | h
  · left
    simpa using h
  · right
    split at h
    · cases h
    · obtain ⟨x, hx, r, hrs, hconn, hpk⟩ := (AgentT6.mem_deliveries0 _ _ _ _ _).mp h
      obtain ⟨u, hu, rfl⟩ := List.mem_map.mp hx
      obtain ⟨kl', hkl', hmatch, hukl', hadd⟩ := (C01_byPattern _ _ u).mp (List.mem_filter.mp hu).1
      obtain ⟨⟨_, hup⟩, hold⟩ := hsubs kl' hkl' u hukl'
      obtain ⟨kl, hkl, hkey, hukl⟩ := hold hadd
      -- the recipient is registered in `w`, and is not the session that ended
      have hrs' : Node.sess { w.node 0 with reg := (w.node 0).reg.filter (fun x => x.id != s.id) } u.session = some r := by
        simp only [Node.sess] at hrs ⊢
        rw [hreg] at hrs
        exact hrs
      have hrmem := (sess_some hrs').1
      simp only [List.mem_filter, bne_iff_ne, ne_eq] at hrmem
      have hrid : r.id = u.session := (sess_some hrs').2
      have hne : u.session ≠ s.id := by rw [← hrid]; exact hrmem.2
      rw [AgentT8.sess_unreg_ne _ _ _ hne] at hrs'
      obtain ⟨f, hf'⟩ := subSessInv_reachable_single w hr hlen 0 hf kl hkl u hukl hadd (hup.trans hdp) r hrs'
      have hsmem := (sess_some hs).1
      have hmount : r.mount = s.mount := by
        apply Classical.byContradiction
        intro hne'
        rw [← hkey, hf', C17_no_cross_match r.mount s.mount f wl.topic (hm r hrmem.1) (hm s hsmem) hne'] at hmatch
        cases hmatch
      refine ⟨r, hrmem.1, by rw [← hid]; exact hrmem.2, hconn, hmount, ?_⟩
      rw [hpk, hmount, C17_trim_prefix]

/-- … and every registered session (other than the lost one) of that mount point with a live subscription matching
    the will's topic IS written the will -/
theorem C13_e2e_will_reaches (w : World) (hr : Reachable w) (hlen : w.nodes.length = 1) (hf : (w.node 0).failed = false)
    (sid : String) (s : Sess) (hs : (w.node 0).sess sid = some s) (hd : s.disconnected = false)
    (wl : Will) (hw : s.will = some wl) (hq : wl.qos = 0) (hnr : wl.retain = false)
    (hcur : ∀ md ∈ sessByClientID (w.node 0).dist s.mount s.client, md.id = sid)
    (hm : ∀ r ∈ (w.node 0).reg, wfMount r.mount)
    (hq0 : ∀ kl ∈ (w.node 0).dist.subs, ∀ u ∈ kl.2, u.qos = 0)
    (hlog : (w.node 0).logFailAll = false ∧ (w.node 0).logFailAt.contains (w.node 0).logCalls = false)
    (r : Sess) (hr' : r ∈ (w.node 0).reg) (hne : r.id ≠ sid) (hmr : r.mount = s.mount)
    (kl : String × List Sub) (hkl : kl ∈ (w.node 0).dist.subs) (u : Sub) (hu : u ∈ kl.2) (hus : u.session = r.id)
    (hlive : isAdded u.stamp = true)
    (hmatch : mqttMatch (levels kl.1) (levels (prefixMountPoint s.mount wl.topic)) = true) :
    (r.conn, Pkt.publish wl.topic wl.payload 0 false false 0) ∈ (w.shutdownSession 0 sid).out := by
  have hinv := reachable_inv2 w hr
  have hid : s.id = sid := sess_some_id hs
  obtain ⟨hdp, hqp, _, hreg, _⟩ := will_setup w hr hlen s hq0
  have hcont := teardown_continue w 0 (by omega) s hqp (by rw [hid]; exact hcur)
  rw [C13_e2e_will_out w hr hlen sid s hs hd wl hw hq hnr hq0 hlog]
  apply List.mem_append_right
  simp only [hcont, Bool.false_eq_true, if_false]
  have hne' : u.session ≠ s.id := by rw [hus, hid]; exact hne
  obtain ⟨kl', hkl', hkey, hukl'⟩ := teardown_keeps_sub w 0 s (hinv.base.subsWF 0).1 kl hkl u hu hne'
  -- `r` is what the registry (before and after the teardown) returns for its id
  have hsr : (w.node 0).sess r.id = some r := by
    cases hx : (w.node 0).sess r.id with
    | none => exact absurd rfl (sess_none hx r hr')
    | some r2 =>
      obtain ⟨h2, h2id⟩ := sess_some hx
      rw [AgentD.eq_of_nodup_ids (hinv.base.regNodup 0) h2 hr' h2id]
  have hsr' : ((teardown w 0 s).1.node 0).sess u.session = some r := by
    have := AgentT8.sess_unreg_ne (w.node 0) s.id u.session hne'
    simp only [Node.sess] at this ⊢
    rw [hreg, this, hus]
    exact hsr
  refine (AgentT6.mem_deliveries0 _ _ _ _ _).mpr ⟨(u.session, u.qos), List.mem_map.mpr ⟨u, List.mem_filter.mpr ⟨?_, ?_⟩, rfl⟩,
    r, hsr', rfl, ?_⟩
  · exact (C01_byPattern _ _ u).mpr ⟨kl', hkl', by rw [hkey]; exact hmatch, hukl', hlive⟩
  · have := (hqp kl hkl u hu).2
    simp [this, hdp]
  · simp only [hmr, C17_trim_prefix]


/-- non-vacuity: "a" (same mount point, matching filter) gets the will of "p"; "b" (other mount point) and "p" itself do not -/
example :
    let w0 := (((World.init 1).connect "p" 0 "idp" "m1" true 60 (some ⟨"last", "gone", 0, false⟩)).connect "a" 0 "ida" "m1" true 60 none).connect "b" 0 "idb" "m2" true 60 none
    let w1 := ((w0.clientPacket "a" (.subscribe 1 [("#", 0)])).clientPacket "b" (.subscribe 2 [("#", 0)])).clientPacket "p" (.subscribe 3 [("#", 0)])
    let w2 := { w1 with out := [] }
    (w2.drop "p").out = [("p", Pkt.closed), ("a", Pkt.publish "last" "gone" 0 false false 0)] ∧
    ((w2.clientPacket "p" .disconnect).out = [("p", Pkt.closed)]) := by
  decide +kernel

end Wasp.Broker
