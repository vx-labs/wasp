import Wasp.Proofs.IdPoolLit
/-!
# C06 — the identifier pool AS WRITTEN is the pool the theorems are about

`Wasp.Generated.IdPoolLit.get/put` are regenerated from `wasp/idpool.go` on every run by the extractor's imperative
translator (extract/imperative.go): the receiver threaded as a value, `sort.Search` as Go's literal binary search,
every index and slice expression guarded (`none` = the Go code would panic; a slice `s[:e]` must have `e ≤ len s`).
The theorems below say that on every well-formed pool the code as written never panics and computes exactly what
the hand-written model `Wasp.IdPool.get/put` computes — so C06's theorems (stated on the model) are theorems about
the code that is in the tree NOW. A change of `idpool.go` changes the generated definitions; if it changes their
meaning these proofs fail.
-/
namespace Wasp.IdPool
open Wasp.IdPool.Lit

theorem C06_code_get_is_model (p : Pool) :
    Wasp.Generated.IdPoolLit.get (toLit p) = some (toLit (get p).1, (get p).2) := getLit_eq p

theorem C06_code_put_is_model (p : Pool) (h : Inv p) (mid : Int) :
    Wasp.Generated.IdPoolLit.put (toLit p) mid = some (toLit (put p mid)) := putLit_eq p h mid

/-- every Get/Put sequence on the code as written, from a fresh pool: no panic, and the states and answers of the model -/
theorem C06_code_trace_is_model (min max : Int) (h : min ≤ max) (ops : List Op) :
    runLit (toLit (new min max)) ops = some (toLit (run (new min max) ops).1, (run (new min max) ops).2) :=
  runLit_eq _ (new_inv min max h) ops

/-- non-vacuity: the translated code on a concrete history, exhaustion and re-use included -/
example : (runLit (toLit (new 0 1)) [.get, .get, .get, .put 0, .get, .put 7, .put 1, .put 1, .get]).map (·.2)
    = some [some 0, some 1, some (-1), none, some 0, none, none, none, some 1] := by decide +kernel

end Wasp.IdPool
