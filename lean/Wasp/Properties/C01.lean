import Wasp.Proofs.Trie
import Wasp.Proofs.Dist
import Wasp.Proofs.Generated
import Wasp.Properties.C19
/-!
# C01 — a publish reaches exactly the sessions whose filters match its topic
(matching core: subscription trie, `ByPattern`, recipient resolution)

* `C01_walk_exact`, `C01_walk_once`: in every reachable subscription trie, for every topic, the
  nodes handed to the Walk callback are exactly those whose path, read as a filter, matches the
  topic under MQTT 3.1.1 rules ('+' = exactly one level — empty levels included —, trailing '#' =
  the parent level and everything below), each exactly once;
* `C01_history_independent`: what is handed over depends only on the current map
  filter ↦ value, not on which other entries exist(ed) or in which order entries were made,
  replaced or removed (two tries with the same contents answer identically);
* `C01_levels_next`: the levels are obtained by iterating `format.Topic.Next` as REGENERATED from
  the Go source; `C01_levels_injective`: different topic strings have different level lists;
* `C01_byPattern`: `SubscriptionsState.ByPattern(topic)` lists exactly the added subscriptions
  stored under a matching filter; `C01_recipients`: the writer's recipient list for a log entry is
  those with `Peer = me`, each with its own subscription's QoS.
The end-to-end half (PUBLISH packets read by clients) is in the broker model (Properties/C11ff).
-/
namespace Wasp.Trie
open Wasp.Topic

/-- Walk hands over exactly the nodes whose filter matches -/
theorem C01_walk_exact (ops : List SubOp) (t : List Level) (ht : t ≠ []) (p : List Level) (d : Bytes) :
    let n := subRun ops Node.empty
    (p, d) ∈ Sub.walkP t [] n ↔ ((nodeAt n p).isSome ∧ d = get n p ∧ mqttMatch p t = true) := by
  intro n
  exact (Sub.mem_walkP t ht n (C19_sub_wf ops Node.empty WF_empty) [] p d).trans (exists_path_root _ p)

/-- … each exactly once -/
theorem C01_walk_once (ops : List SubOp) (t : List Level) :
    ((Sub.walkP t [] (subRun ops Node.empty)).map (·.1)).Nodup :=
  Sub.nodup_walkP t _ (C19_sub_wf ops Node.empty WF_empty) []

/-- the non-empty values handed over are a function of the map contents only -/
theorem C01_history_independent (n₁ n₂ : Node) (h₁ : WF n₁) (h₂ : WF n₂)
    (same : ∀ p, get n₁ p = get n₂ p) (t : List Level) (ht : t ≠ []) (p : List Level) (d : Bytes) (hd : d ≠ []) :
    (p, d) ∈ Sub.walkP t [] n₁ ↔ (p, d) ∈ Sub.walkP t [] n₂ := by
  rw [Sub.mem_walkP_contents t ht n₁ h₁ [] p d hd, Sub.mem_walkP_contents t ht n₂ h₂ [] p d hd]
  simp only [same]

/-- two histories that lead to the same active set give the same trie contents, hence
    (previous theorem) the same deliveries: contents are determined by the spec fold -/
theorem C01_same_contents (ops₁ ops₂ : List SubOp) (h₁ : ∀ op ∈ ops₁, op.path ≠ []) (h₂ : ∀ op ∈ ops₂, op.path ≠ [])
    (same : subSpec ops₁ Spec.empty = subSpec ops₂ Spec.empty) (p : List Level) :
    get (subRun ops₁ Node.empty) p = get (subRun ops₂ Node.empty) p := by
  have e₁ := C19_sub_refines ops₁ h₁ Node.empty
  have e₂ := C19_sub_refines ops₂ h₂ Node.empty
  have he : get Node.empty = Spec.empty := by funext q; exact get_empty q
  rw [he] at e₁ e₂
  rw [e₁, e₂, same]

/-- the levels of a topic are what iterating the Go `Topic.Next` yields -/
theorem C01_levels_next (t : List Char) : Wasp.Generated.topicNext t = Topic.next t := Wasp.Tie.topicNext_eq t

theorem C01_levels_injective {s₁ s₂ : String} (h : levels s₁ = levels s₂) : s₁ = s₂ := Wasp.Dist.levels_inj h

/-! matching rules, stated outright -/

/-- '+' stands for exactly one level (any level, the empty one included) -/
theorem C01_plus_one_level (fs ts : List Level) (l : Level) :
    mqttMatch ("+" :: fs) (l :: ts) = mqttMatch fs ts :=
  Bool.eq_iff_iff.2 ((mqttMatch_cons_cons "+" (by decide) fs l ts).trans (and_iff_right (.inl rfl)))

theorem C01_plus_not_zero_levels (fs : List Level) : mqttMatch ("+" :: fs) [] = false :=
  Bool.eq_false_iff.2 fun h => absurd ((mqttMatch_cons_nil "+" fs).1 h).1 (by decide)

/-- a trailing '#' matches the parent level … -/
theorem C01_hash_parent : mqttMatch ["#"] [] = true := (mqttMatch_hash [] []).2 rfl

/-- … and everything below it -/
theorem C01_hash_below (ts : List Level) (l : Level) : mqttMatch ["#"] (l :: ts) = true :=
  (mqttMatch_hash [] (l :: ts)).2 rfl

/-- a literal level matches only itself -/
theorem C01_literal (f : Level) (hf : f ≠ "+") (hf' : f ≠ "#") (fs ts : List Level) (l : Level) :
    mqttMatch (f :: fs) (l :: ts) = ((f == l) && mqttMatch fs ts) := by
  rw [Bool.eq_iff_iff, mqttMatch_cons_cons f hf', or_iff_right hf, Bool.and_eq_true, beq_iff_eq]

example : mqttMatch (levels "a/#") (levels "a") = true ∧ mqttMatch (levels "+/+") (levels "/a") = true ∧
    mqttMatch (levels "+") (levels "/a") = false ∧ mqttMatch (levels "a/+") (levels "a") = false ∧
    mqttMatch (levels "a//b") (levels "a/b") = false ∧ mqttMatch (levels "#") (levels "/") = true := by decide +kernel

end Wasp.Trie

namespace Wasp.Dist
open Wasp.Topic Wasp.Crdt

/-- ByPattern lists exactly the added subscriptions stored under a matching filter -/
theorem C01_byPattern (st : State) (topic : String) (s : Sub) :
    s ∈ subByPattern st topic ↔
      ∃ kl ∈ st.subs, mqttMatch (levels kl.1) (levels topic) = true ∧ s ∈ kl.2 ∧ isAdded s.stamp = true := by
  simp only [subByPattern, List.mem_flatMap, List.mem_filter]
  constructor
  · rintro ⟨kl, ⟨hkl, hm⟩, hs, ha⟩; exact ⟨kl, hkl, hm, hs, ha⟩
  · rintro ⟨kl, hkl, hm, hs, ha⟩; exact ⟨kl, ⟨hkl, hm⟩, hs, ha⟩

/-- recipient resolution of writer.Run for a log entry: (session, qos) of the matching added
    subscriptions hosted by this peer -/
def recipients (st : State) (topic : String) : List (String × Int) :=
  ((subByPattern st topic).filter (fun s => s.peer == st.peer)).map (fun s => (s.session, s.qos))

theorem C01_recipients (st : State) (topic : String) (sess : String) (q : Int) :
    (sess, q) ∈ recipients st topic ↔
      ∃ s, s ∈ subByPattern st topic ∧ s.peer = st.peer ∧ s.session = sess ∧ s.qos = q := by
  simp only [recipients, List.mem_map, List.mem_filter, beq_iff_eq, Prod.mk.injEq]
  constructor
  · rintro ⟨s, ⟨hs, hp⟩, h1, h2⟩; exact ⟨s, hs, hp, h1, h2⟩
  · rintro ⟨s, hs, hp, h1, h2⟩; exact ⟨s, ⟨hs, hp⟩, h1, h2⟩

end Wasp.Dist
