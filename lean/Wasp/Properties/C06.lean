import Wasp.Proofs.IdPool
/-!
# C06 — packet identifiers in flight are unique and never leak

Property theorems about the model of `wasp/idpool.go` (`Wasp.IdPool`), for every
range `min ≤ max` and EVERY sequence of Get / Put calls (no bound on length).

`out` is the ghost list of identifiers handed out and not yet returned.
-/
namespace Wasp.IdPool

/-- ghost update of the outstanding identifiers -/
def stepOut (p : Pool) (out : List Int) : Op → List Int
  | .get => if p.ivs = [] then out else (get p).2 :: out
  | .put m => out.filter (· ≠ m)

/-- the relation between the allocator state and the outstanding identifiers:
    structural invariant, and the range is PARTITIONED into free and outstanding -/
structure Good (p : Pool) (out : List Int) : Prop where
  inv : Inv p
  part : ∀ x, p.min ≤ x → x ≤ p.max → (p.free x ↔ x ∉ out)
  range : ∀ x ∈ out, p.min ≤ x ∧ x ≤ p.max
  nodup : out.Nodup

theorem C06_init (min max : Int) (h : min ≤ max) : Good (new min max) [] where
  inv := new_inv min max h
  part := by
    intro x h1 h2
    have h1' : min ≤ x := h1
    have h2' : x ≤ max := h2
    simp [new_free, h1', h2']
  range := by simp
  nodup := by simp

/-- Get hands out an identifier in range that is not outstanding -/
theorem C06_get_fresh (p : Pool) (out : List Int) (g : Good p out) (hne : p.ivs ≠ []) :
    p.min ≤ (get p).2 ∧ (get p).2 ≤ p.max ∧ (get p).2 ∉ out := by
  have h := get_spec p g.inv hne
  exact ⟨h.2.2.1, h.2.2.2.1, (g.part _ h.2.2.1 h.2.2.2.1).mp h.2.1⟩

/-- exhaustion is reported exactly when every identifier of the range is outstanding,
    and then nothing changes -/
theorem C06_exhaustion (p : Pool) (out : List Int) (g : Good p out) :
    (p.ivs = [] ↔ ∀ x, p.min ≤ x → x ≤ p.max → x ∈ out) ∧ (p.ivs = [] → get p = (p, -1)) := by
  refine ⟨⟨fun h x h1 h2 => ?_, fun h => ?_⟩, get_empty p⟩
  · by_cases hx : x ∈ out
    · exact hx
    · have := (g.part x h1 h2).mpr hx
      simp [Pool.free, h, freeIn] at this
  · by_cases hne : p.ivs = []
    · exact hne
    · obtain ⟨x, hx⟩ := free_of_ne_nil p g.inv hne
      have hr := free_in_range p g.inv hx
      exact absurd (h x hr.1 hr.2) ((g.part x hr.1 hr.2).mp hx)

/-- returning an outstanding identifier makes exactly it available again -/
theorem C06_put_outstanding (p : Pool) (out : List Int) (g : Good p out) (m : Int) (hm : m ∈ out) :
    (put p m).free m ∧ ∀ x, x ≠ m → ((put p m).free x ↔ p.free x) := by
  have h := (put_spec p g.inv m).2
  have hr := g.range m hm
  refine ⟨(h m).mpr (Or.inr ⟨rfl, hr.1, hr.2⟩), fun x hx => ?_⟩
  rw [h x]
  constructor
  · rintro (h' | h')
    · exact h'
    · exact absurd h'.1 hx
  · intro h'; exact Or.inl h'

/-- returning an identifier that is not outstanding (already free, never issued,
    out of range) changes nothing -/
theorem C06_put_not_outstanding (p : Pool) (out : List Int) (g : Good p out) (m : Int) (hm : m ∉ out) :
    ∀ x, (put p m).free x ↔ p.free x := by
  intro x
  rw [(put_spec p g.inv m).2 x]
  constructor
  · rintro (h | ⟨rfl, h1, h2⟩)
    · exact h
    · exact (g.part x h1 h2).mpr hm
  · intro h; exact Or.inl h

theorem C06_step (p : Pool) (out : List Int) (g : Good p out) (op : Op) :
    Good (step p op).1 (stepOut p out op) := by
  cases op with
  | get =>
    simp only [step, stepOut]
    by_cases hne : p.ivs = []
    · simp only [hne, if_true]; rw [get_empty p hne]; exact g
    · simp only [hne, if_false]
      have h := get_spec p g.inv hne
      have hf := C06_get_fresh p out g hne
      have hmm := get_min_max p
      refine ⟨h.1, ?_, ?_, ?_⟩
      · intro x h1 h2
        rw [hmm.1] at h1; rw [hmm.2] at h2
        rw [h.2.2.2.2 x, g.part x h1 h2]
        simp only [List.mem_cons, not_or]
        constructor
        · rintro ⟨a, b⟩; exact ⟨b, a⟩
        · rintro ⟨a, b⟩; exact ⟨b, a⟩
      · intro x hx
        rw [hmm.1, hmm.2]
        rcases List.mem_cons.mp hx with rfl | hx
        · exact ⟨hf.1, hf.2.1⟩
        · exact g.range x hx
      · exact List.nodup_cons.mpr ⟨hf.2.2, g.nodup⟩
  | put m =>
    simp only [step, stepOut]
    have h := put_spec p g.inv m
    have hmm := put_min_max p m
    refine ⟨h.1, ?_, ?_, ?_⟩
    · intro x h1 h2
      rw [hmm.1] at h1; rw [hmm.2] at h2
      rw [h.2 x, g.part x h1 h2]
      simp only [List.mem_filter, decide_eq_true_eq, not_and, Decidable.not_not, ne_eq]
      constructor
      · rintro (h' | ⟨rfl, _, _⟩)
        · intro hx; exact absurd hx h'
        · intro _; rfl
      · intro h'
        by_cases hx : x ∈ out
        · right; exact ⟨h' hx, by rw [← h' hx]; exact h1, by rw [← h' hx]; exact h2⟩
        · left; exact hx
    · intro x hx
      rw [hmm.1, hmm.2]
      exact g.range x (List.mem_filter.mp hx).1
    · exact g.nodup.filter _

def runOut (p : Pool) (out : List Int) : List Op → Pool × List Int
  | [] => (p, out)
  | op :: ops => runOut (step p op).1 (stepOut p out op) ops

theorem good_runOut (ops : List Op) :
    ∀ p out, Good p out → Good (runOut p out ops).1 (runOut p out ops).2 := by
  induction ops with
  | nil => exact fun p out g => g
  | cons op ops ih => exact fun p out g => ih _ _ (C06_step p out g op)

/-- C06 for every reachable state: whatever calls are made, the range stays partitioned
    into free and outstanding identifiers, and the interval list stays well formed -/
theorem C06_reachable (min max : Int) (h : min ≤ max) (ops : List Op) :
    Good (runOut (new min max) [] ops).1 (runOut (new min max) [] ops).2 :=
  good_runOut ops _ _ (C06_init min max h)

/-- The executable monitor: what a Get/Put trace must look like (this is the oracle the
    check also runs on the implementation's own trace).  `out` = outstanding ids. -/
def traceOk (min max : Int) : List Int → List (Op × Option Int) → Bool
  | _, [] => true
  | out, (.get, some v) :: rest =>
    if v = -1 then
      -- exhaustion may only be reported when every identifier is outstanding
      (List.range (max - min + 1).toNat).all (fun i => out.contains (min + i)) && traceOk min max out rest
    else
      decide (min ≤ v) && decide (v ≤ max) && !out.contains v && traceOk min max (v :: out) rest
  | out, (.put m, none) :: rest => traceOk min max (out.filter (· ≠ m)) rest
  | _, _ => false

theorem mem_range_all {min max : Int} {out : List Int}
    (h : ∀ x, min ≤ x → x ≤ max → x ∈ out) :
    (List.range (max - min + 1).toNat).all (fun i => out.contains (min + i)) = true := by
  simp only [List.all_eq_true, List.mem_range, List.contains_eq_mem, decide_eq_true_eq]
  intro i hi
  exact h _ (by omega) (by omega)

theorem traceOk_run (min max : Int) (hmin : 0 ≤ min) (ops : List Op) :
    ∀ p out, Good p out → p.min = min → p.max = max →
      traceOk min max out (ops.zip (run p ops).2) = true := by
  induction ops with
  | nil => intro p out _ _ _; simp [run, traceOk]
  | cons op ops ih =>
    intro p out g hmn hmx
    have gs := C06_step p out g op
    cases op with
    | get =>
      have hmm := get_min_max p
      simp only [run, step, List.zip_cons_cons, traceOk]
      by_cases hne : p.ivs = []
      · have he := get_empty p hne
        simp only [he, if_true]
        have hall := ((C06_exhaustion p out g).1.mp hne)
        rw [hmn, hmx] at hall
        rw [mem_range_all hall, Bool.true_and]
        have := ih p out g hmn hmx
        exact this
      · have hf := C06_get_fresh p out g hne
        have hv : (get p).2 ≠ -1 := fun e =>
          absurd (Int.le_trans hmin (hmn ▸ hf.1)) (e ▸ by decide)
        simp only [hv, if_false]
        simp only [step, stepOut, hne, if_false] at gs
        have := ih (get p).1 ((get p).2 :: out) gs (by rw [hmm.1, hmn]) (by rw [hmm.2, hmx])
        simp only [this, Bool.and_true, Bool.and_eq_true, decide_eq_true_eq, Bool.not_eq_true',
          List.contains_eq_mem, decide_eq_false_iff_not]
        exact ⟨⟨hmn ▸ hf.1, hmx ▸ hf.2.1⟩, hf.2.2⟩
    | put m =>
      have hmm := put_min_max p m
      simp only [run, step, List.zip_cons_cons, traceOk]
      simp only [step, stepOut] at gs
      exact ih (put p m) _ gs (by rw [hmm.1, hmn]) (by rw [hmm.2, hmx])

/-- C06, trace form: on every sequence of allocate/release calls the model's answers are
    accepted by the monitor: every identifier handed out lies in the range and is not
    outstanding, and exhaustion (-1) is reported only when everything is outstanding.
    `0 ≤ min`: the monitor reads -1 as exhaustion, so -1 must not be an identifier. -/
theorem C06_trace (min max : Int) (hmin : 0 ≤ min) (h : min ≤ max) (ops : List Op) :
    traceOk min max [] (ops.zip (run (new min max) ops).2) = true :=
  traceOk_run min max hmin ops _ _ (C06_init min max h) rfl rfl

/-- the model never gets stuck or panics: it is a total function; a state in which the
    pool is exhausted exists and is handled (non-vacuity of the exhaustion clause) -/
example : (run (new 0 1) [.get, .get, .get, .put 0, .get, .put 7, .put 1, .put 1, .get]).2
    = [some 0, some 1, some (-1), none, some 0, none, none, none, some 1] := by decide +kernel

example : Good (new 0 65535) [] := C06_init 0 65535 (by omega)

end Wasp.IdPool
