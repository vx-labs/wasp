import Wasp.Proofs.SessionLit
import Wasp.Proofs.SessionMountLit
/-!
# C01 — the per-session filter list AS WRITTEN (`(*Session).AddTopic` / `(*Session).RemoveTopic`)

The broker model keeps, per session, the list of filters the client subscribed to (`Sess.topics`,
Model/Broker.lean): SUBSCRIBE does `if topics.contains t then topics else topics ++ [t]`, UNSUBSCRIBE does
`topics.filter (· != t)`, and `shutdownSession` deletes one subscription per entry. Here the same two operations
are the definitions REGENERATED from `wasp/sessions/session.go` (`Wasp.Generated.SessionLit`, `range` loops over a
snapshot of `s.topics`, every index and slice expression guarded, `none` = the Go code would panic):

* `C01_code_addTopic_is_model`: on EVERY list `AddTopic` never panics and is exactly the model's SUBSCRIBE update;
* `C01_code_removeTopic_is_model_perm`: on a list without duplicates `RemoveTopic` never panics and yields a
  PERMUTATION of the model's `filter` (the Go code moves the last element into the hole), without duplicates;
* `C01_code_history`: every history of AddTopic / RemoveTopic calls from the empty list runs without a panic,
  keeps the list free of duplicates, and ends in a permutation of what the model computes for the same history;
* `C01_code_removeTopic_dup_panics`: on a list WITH duplicates (unreachable by `C01_code_history`) the code as
  written can index out of range: the loop still visits the positions of the list as it was at loop entry.
* `C01_code_prefixMountPoint_is_model`, `C01_code_trim_prefix`: `prefixMountPoint` as written (make, copy, one byte,
  copy; `Wasp.Generated.SessionMountLit`) never panics and is the model's `Topic.prefixMountPoint`; the translated
  `trimMountPoint` undoes it. Both SUBSCRIBE and UNSUBSCRIBE hand the PREFIXED filter to AddTopic / RemoveTopic
  (packets.go), as the model does.
-/
namespace Wasp.SessionLit
open Wasp.Generated.SessionLit

/-- the model's update at SUBSCRIBE (Model/Broker.lean, `.subscribe`) -/
def addModel (topics : List Topic) (t : Topic) : List Topic :=
  if topics.contains t then topics else topics ++ [t]

/-- the model's update at UNSUBSCRIBE (Model/Broker.lean, `.unsubscribe`) -/
def removeModel (topics : List Topic) (t : Topic) : List Topic :=
  topics.filter (· != t)

/-- (a) AddTopic as written: no panic on any list, and exactly the model's update -/
theorem C01_code_addTopic_is_model (topics : List Topic) (t : Topic) :
    addTopic ⟨topics⟩ t = some ⟨addModel topics t⟩ :=
  addTopic_eq topics t

theorem C01_code_addTopic_nodup (topics : List Topic) (t : Topic) (hn : topics.Nodup) :
    (addModel topics t).Nodup := by
  unfold addModel
  by_cases m : t ∈ topics
  · simpa [m] using hn
  · simp only [List.contains_iff_mem, m, if_false]
    rw [List.nodup_append]
    refine ⟨hn, by simp, ?_⟩
    intro a ha b hb
    rw [List.mem_singleton] at hb
    subst hb
    intro e
    exact m (e ▸ ha)

/-- (b) RemoveTopic as written on a list without duplicates: no panic, a permutation of the model's `filter`,
    still without duplicates -/
theorem C01_code_removeTopic_is_model_perm (topics : List Topic) (hn : topics.Nodup) (t : Topic) :
    ∃ r, removeTopic ⟨topics⟩ t = some ⟨r⟩ ∧ r.Perm (removeModel topics t) ∧ r.Nodup := by
  have hfilter : ∀ l : List Topic, t ∉ l → l.filter (· != t) = l := fun l hl =>
    List.filter_eq_self.2 fun a ha => bne_iff_ne.2 fun e => hl (e ▸ ha)
  by_cases m : t ∈ topics
  · obtain ⟨pre, post, rfl⟩ := List.append_of_mem m
    obtain ⟨_, hcons, hdisj⟩ := List.nodup_append.1 hn
    have h1 : t ∉ pre := fun h => hdisj t h t List.mem_cons_self rfl
    have h2 : t ∉ post := (List.nodup_cons.1 hcons).1
    have hmodel : removeModel (pre ++ t :: post) t = pre ++ post := by
      simp [removeModel, hfilter pre h1, hfilter post h2]
    have hp := swapOut_perm pre post t
    refine ⟨_, removeTopic_once pre post t h1 h2, hmodel ▸ hp, hp.nodup_iff.2 ?_⟩
    exact hn.sublist ((List.Sublist.refl pre).append (List.sublist_cons_self t post))
  · exact ⟨topics, removeTopic_absent topics t m, by rw [removeModel, hfilter topics m], hn⟩

/-! ### histories -/

inductive Op where
  | add (t : Topic)
  | remove (t : Topic)
deriving Repr, DecidableEq

/-- the code as written, call after call (`none` = some call panicked) -/
def runCode (s : Session) : List Op → Option Session
  | [] => some s
  | .add t :: ops => (addTopic s t).bind (fun s => runCode s ops)
  | .remove t :: ops => (removeTopic s t).bind (fun s => runCode s ops)

/-- the model's list for the same calls -/
def runModel (l : List Topic) : List Op → List Topic
  | [] => l
  | .add t :: ops => runModel (addModel l t) ops
  | .remove t :: ops => runModel (removeModel l t) ops

theorem addModel_perm {l m : List Topic} (h : l.Perm m) (t : Topic) : (addModel l t).Perm (addModel m t) := by
  unfold addModel
  by_cases ml : t ∈ l
  · have mm : t ∈ m := h.mem_iff.1 ml
    simpa [ml, mm] using h
  · have mm : t ∉ m := fun x => ml (h.mem_iff.2 x)
    simpa [ml, mm] using h.append_right [t]

theorem removeModel_perm {l m : List Topic} (h : l.Perm m) (t : Topic) :
    (removeModel l t).Perm (removeModel m t) := h.filter _

theorem runModel_perm : ∀ (ops : List Op) {l m : List Topic}, l.Perm m → (runModel l ops).Perm (runModel m ops)
  | [], _, _, h => h
  | .add t :: ops, _, _, h => runModel_perm ops (addModel_perm h t)
  | .remove t :: ops, _, _, h => runModel_perm ops (removeModel_perm h t)

/-- from any duplicate-free list that is a permutation of the model's, a history runs without a panic, stays
    duplicate-free and stays a permutation of the model's list -/
theorem C01_code_history_from : ∀ (ops : List Op) (l m : List Topic), l.Nodup → l.Perm m →
    ∃ r, runCode ⟨l⟩ ops = some ⟨r⟩ ∧ r.Nodup ∧ r.Perm (runModel m ops)
  | [], l, _, hn, hp => ⟨l, rfl, hn, hp⟩
  | .add t :: ops, l, m, hn, hp => by
    obtain ⟨r, hr, hnd, hpm⟩ := C01_code_history_from ops (addModel l t) (addModel m t)
      (C01_code_addTopic_nodup l t hn) (addModel_perm hp t)
    exact ⟨r, by simp [runCode, C01_code_addTopic_is_model, hr], hnd, hpm⟩
  | .remove t :: ops, l, m, hn, hp => by
    obtain ⟨r1, h1, hp1, hn1⟩ := C01_code_removeTopic_is_model_perm l hn t
    obtain ⟨r, hr, hnd, hpm⟩ := C01_code_history_from ops r1 (removeModel m t) hn1
      (hp1.trans (removeModel_perm hp t))
    exact ⟨r, by simp [runCode, h1, hr], hnd, hpm⟩

/-- the invariant: every AddTopic / RemoveTopic history from the empty list runs without a panic, the list never
    holds a filter twice, and it is a permutation of the model's list (same members, same length) -/
theorem C01_code_history (ops : List Op) :
    ∃ r, runCode ⟨[]⟩ ops = some ⟨r⟩ ∧ r.Nodup ∧ r.Perm (runModel [] ops) :=
  C01_code_history_from ops [] [] List.nodup_nil (List.Perm.refl _)

/-- in particular membership (what `shutdownSession` deletes) agrees with the model -/
theorem C01_code_history_mem (ops : List Op) (r : List Topic) (h : runCode ⟨[]⟩ ops = some ⟨r⟩) (t : Topic) :
    t ∈ r ↔ t ∈ runModel [] ops := by
  obtain ⟨r', hr, _, hp⟩ := C01_code_history ops
  rw [h] at hr
  cases hr
  exact hp.mem_iff

/-! ### (c) a list WITH duplicates (unreachable, by `C01_code_history`) -/

/-- The loop visits every position of the list as it was at loop entry. With `t` at the last position and once
    more before it, the first match has already shrunk the list when the last position is reached:
    `s.topics[idx]` is out of range - the Go code panics. -/
theorem C01_code_removeTopic_dup_panics :
    removeTopic ⟨[['a'], ['b'], ['a']]⟩ ['a'] = none := by decide +kernel

/-- in general: a second occurrence at the last position always panics -/
theorem C01_code_removeTopic_dup_last_panics (pre mid : List Topic) (t : Topic) (h1 : t ∉ pre) (h2 : t ∉ mid) :
    removeTopic ⟨pre ++ t :: (mid ++ [t])⟩ t = none := by
  have hk : 0 + pre.length < (pre ++ t :: (mid ++ [t])).length := by
    rw [List.length_append, List.length_cons]; omega
  have hshort : ¬ pre.length + 1 + mid.length < (pre ++ t :: mid).length := by
    rw [List.length_append, List.length_cons]; omega
  rw [removeTopic_eq, remLoop_append t pre _ 0 _ h1, remLoop, if_pos rfl, if_pos hk, Nat.zero_add, swapOut_middle,
    remLoop_append t mid _ _ _ h2, remLoop, if_pos rfl, if_neg hshort]
  rfl

/-- a duplicate that is not at the end may go through (here both copies are removed) -/
example : removeTopic ⟨[['a'], ['b'], ['a'], ['c']]⟩ ['a'] = some ⟨[['c'], ['b']]⟩ := by decide +kernel

/-! ### the mount-point prefix -/

/-- `prefixMountPoint` as written never panics: mount point, one separator, the topic -/
theorem C01_code_prefixMountPoint (mp t : List Char) :
    Wasp.Generated.SessionMountLit.prefixMountPoint mp t = some (mp ++ '/' :: t) :=
  SessionMountLit.prefixMountPoint_eq mp t

/-- it is the model's `Topic.prefixMountPoint` (on `String`s), read on characters -/
theorem C01_code_prefixMountPoint_is_model (mp t : String) :
    Wasp.Generated.SessionMountLit.prefixMountPoint mp.toList t.toList
      = some (Wasp.Topic.prefixMountPoint mp t).toList :=
  SessionMountLit.prefixMountPoint_is_model mp t

/-- the translated `trimMountPoint` (what the writer applies before delivery) undoes it -/
theorem C01_code_trim_prefix (mp t r : List Char)
    (h : Wasp.Generated.SessionMountLit.prefixMountPoint mp t = some r) :
    Wasp.Generated.trimMountPoint mp r = t :=
  SessionMountLit.trim_prefixMountPoint mp t r h

/-! ### non-vacuity -/

example : Wasp.Generated.SessionMountLit.prefixMountPoint ['m', 'p'] ['a', '/', 'b']
    = some ['m', 'p', '/', 'a', '/', 'b'] := by decide +kernel
example : Wasp.Generated.SessionMountLit.prefixMountPoint [] [] = some ['/'] := by decide +kernel
example : Wasp.Generated.trimMountPoint ['m', 'p'] ['m', 'p', '/', 'a', '/', 'b'] = ['a', '/', 'b'] := by decide +kernel

example : addTopic ⟨[['a'], ['b']]⟩ ['c'] = some ⟨[['a'], ['b'], ['c']]⟩ := by decide +kernel
example : addTopic ⟨[['a'], ['b']]⟩ ['a'] = some ⟨[['a'], ['b']]⟩ := by decide +kernel
/-- the order really differs from the model's `filter`: the last element fills the hole -/
example : removeTopic ⟨[['a'], ['b'], ['c']]⟩ ['a'] = some ⟨[['c'], ['b']]⟩ := by decide +kernel
example : removeModel [['a'], ['b'], ['c']] ['a'] = [['b'], ['c']] := by decide +kernel
example : removeTopic ⟨[['a'], ['b'], ['c']]⟩ ['x'] = some ⟨[['a'], ['b'], ['c']]⟩ := by decide +kernel
example : runCode ⟨[]⟩ [.add ['a'], .add ['b'], .add ['a'], .add ['c'], .remove ['a'], .add ['a']]
    = some ⟨[['c'], ['b'], ['a']]⟩ := by decide +kernel
example : runModel [] [.add ['a'], .add ['b'], .add ['a'], .add ['c'], .remove ['a'], .add ['a']]
    = [['b'], ['c'], ['a']] := by decide +kernel
/-- the hypothesis of (b) is satisfiable and needed -/
example : ([['a'], ['b'], ['c']] : List Topic).Nodup := by decide +kernel
example : ¬ ([['a'], ['b'], ['a']] : List Topic).Nodup := by decide +kernel

end Wasp.SessionLit
