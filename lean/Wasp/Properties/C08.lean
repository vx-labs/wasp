import Wasp.Model.Dist
import Wasp.Proofs.Dist
/-!
# C08 — replicas converge regardless of delivery order, duplication and batching

Two nodes that have received the same SET of updates — in any order, any number of times,
one at a time or batched — store the same entry under every key of the three replicated
stores, hence list the same sessions, subscriptions and retained messages. The entry stored
under a key is the received update with the greatest timestamp (`lastUpdate`); an older
update never replaces a newer one.

Hypotheses, all explicit:
* validity of the updates (what `merge…` itself checks: non-empty ids / patterns / topics;
  an invalid entry makes the code drop the rest of its batch);
* `TieFree`: two different updates to the same key never carry the same timestamp — the
  property's "the update with the greatest timestamp" presupposes it; `tie_counterexample`
  shows it is necessary;
* retained topics are topic NAMES (no '+'/'#' level), as MQTT requires of a PUBLISH;
* for batching of retained updates into a NON-empty store: the store holds at most one message
  per topic (true of every store reached from the empty one, `C08_retained_nodup`);
  `retained_batching_needs_unique_keys` shows it is necessary.

The definitions the statements use (`TieFree`, `….ts`, `valid…`, `subEntry`, `retEntry`) and all
helper lemmas are in `Wasp/Proofs/Dist.lean`.
-/
namespace Wasp.Dist
open Wasp.Crdt Wasp.Topic

/-! ## batching is irrelevant: a batch is processed entry by entry -/

theorem C08_sessions_batching (a b : List SessionMD) (st : List SessionMD) (ha : ∀ s ∈ a, validSession s) :
    mergeSessions (a ++ b) st = mergeSessions b (mergeSessions a st) := by
  exact mergeSessions_append a b st ha

theorem C08_subs_batching (a b : List Sub) (m : List (String × List Sub)) (ha : ∀ s ∈ a, validSub s) :
    mergeSubs (a ++ b) m = mergeSubs b (mergeSubs a m) := by
  exact mergeSubs_append a b m ha

/-- `hk` (the store holds at most one message per topic) was ADDED to the original statement:
    without it the statement is false, see `retained_batching_needs_unique_keys`. It holds of
    every store reached from the empty one (`C08_retained_nodup`). `hm` is not needed. -/
theorem C08_retained_batching (a b : List Retained) (m : List (String × Retained))
    (ha : ∀ r ∈ a, validRetained r) (hm : ∀ kr ∈ m, kr.1 = kr.2.topic ∧ wfTopic (levels kr.1) = true)
    (hk : (m.map (·.1)).Nodup) :
    mergeRetained (a ++ b) m = mergeRetained b (mergeRetained a m) := by
  have _ := hm
  exact mergeRetained_append a b ha m hk

/-- the invariant `hk` above: merging valid updates keeps the topics of the store unique -/
theorem C08_retained_nodup (l : List Retained) (hv : ∀ r ∈ l, validRetained r)
    (m : List (String × Retained)) (hk : (m.map (·.1)).Nodup) :
    ((mergeRetained l m).map (·.1)).Nodup := by
  have _ := hv
  exact mergeRetained_nodup l m hk

/-- on a store with two messages under one topic (which satisfies the original `hm`),
    `mergeMessages` aborts the batch at the first update of that topic (`len(local) > 1`),
    so `[ra, rb]` in one batch drops `rb` while `[ra]` then `[rb]` applies it -/
theorem retained_batching_needs_unique_keys :
    let r1 : Retained := { topic := "a", payload := "x", qos := 0, retain := true, dup := false, added := 1, deleted := 0 }
    let r2 : Retained := { topic := "a", payload := "y", qos := 0, retain := true, dup := false, added := 2, deleted := 0 }
    let ra : Retained := { topic := "a", payload := "z", qos := 0, retain := true, dup := false, added := 3, deleted := 0 }
    let rb : Retained := { topic := "b", payload := "w", qos := 0, retain := true, dup := false, added := 3, deleted := 0 }
    let m : List (String × Retained) := [("a", r1), ("a", r2)]
    (∀ kr ∈ m, kr.1 = kr.2.topic ∧ wfTopic (levels kr.1) = true) ∧
    mergeRetained ([ra] ++ [rb]) m ≠ mergeRetained [rb] (mergeRetained [ra] m) := by
  decide +kernel

/-! ## last writer wins: what is stored under a key after merging the updates `l` -/

/-- sessions: the stored record is a received update of that id with the greatest timestamp;
    nothing is stored iff no update of that id was received -/
theorem C08_sessions_lww (l : List SessionMD) (hv : ∀ s ∈ l, validSession s) (id : String) :
    (∀ s, sessLookup id (mergeSessions l []) = some s →
        s ∈ l ∧ s.id = id ∧ ∀ s' ∈ l, s'.id = id → s'.ts ≤ s.ts) ∧
    (sessLookup id (mergeSessions l []) = none ↔ ∀ s ∈ l, s.id ≠ id) := by
  rw [sessLookup_mergeSessions l hv id]
  exact lwwFold_filter_spec SessionMD.ts (fun s => s.id = id) l

theorem C08_subs_lww (l : List Sub) (hv : ∀ s ∈ l, validSub s) (pattern session : String) :
    (∀ s, subEntry (mergeSubs l []) pattern session = some s →
        s ∈ l ∧ s.pattern = pattern ∧ s.session = session ∧
        ∀ s' ∈ l, s'.pattern = pattern → s'.session = session → s'.ts ≤ s.ts) ∧
    (subEntry (mergeSubs l []) pattern session = none ↔
        ∀ s ∈ l, ¬ (s.pattern = pattern ∧ s.session = session)) := by
  rw [subEntry_mergeSubs l hv pattern session]
  obtain ⟨h1, h2⟩ := lwwFold_filter_spec Sub.ts (fun s => s.pattern = pattern ∧ s.session = session) l
  refine ⟨fun s h => ?_, h2⟩
  obtain ⟨hm, hk, hmax⟩ := h1 s h
  exact ⟨hm, hk.1, hk.2, fun s' hs' hp hs => hmax s' hs' ⟨hp, hs⟩⟩

theorem C08_retained_lww (l : List Retained) (hv : ∀ r ∈ l, validRetained r) (topic : String) :
    (∀ r, retEntry (mergeRetained l []) topic = some r →
        r ∈ l ∧ r.topic = topic ∧ ∀ r' ∈ l, r'.topic = topic → r'.ts ≤ r.ts) ∧
    (retEntry (mergeRetained l []) topic = none ↔ ∀ r ∈ l, r.topic ≠ topic) := by
  rw [retEntry_mergeRetained l hv topic [] List.nodup_nil]
  exact lwwFold_filter_spec Retained.ts (fun r => r.topic = topic) l

/-! ## convergence: the same set of updates gives the same stored entries -/

theorem C08_sessions_converge (l₁ l₂ : List SessionMD) (hv : ∀ s ∈ l₁, validSession s)
    (same : ∀ s, s ∈ l₁ ↔ s ∈ l₂) (tf : TieFree SessionMD.id SessionMD.ts l₁) (id : String) :
    sessLookup id (mergeSessions l₁ []) = sessLookup id (mergeSessions l₂ []) := by
  have hv₂ : ∀ s ∈ l₂, validSession s := fun s hs => hv s ((same s).mpr hs)
  rw [sessLookup_mergeSessions l₁ hv id, sessLookup_mergeSessions l₂ hv₂ id]
  apply lwwFold_filter_congr _ (fun s => s.id = id) _ _ same
  intro a ha b hb pa pb
  exact tf.eq ha hb (pa.trans pb.symm)

theorem C08_subs_converge (l₁ l₂ : List Sub) (hv : ∀ s ∈ l₁, validSub s)
    (same : ∀ s, s ∈ l₁ ↔ s ∈ l₂) (tf : TieFree (fun s : Sub => (s.pattern, s.session)) Sub.ts l₁)
    (pattern session : String) :
    subEntry (mergeSubs l₁ []) pattern session = subEntry (mergeSubs l₂ []) pattern session := by
  have hv₂ : ∀ s ∈ l₂, validSub s := fun s hs => hv s ((same s).mpr hs)
  rw [subEntry_mergeSubs l₁ hv pattern session, subEntry_mergeSubs l₂ hv₂ pattern session]
  apply lwwFold_filter_congr _ (fun s => s.pattern = pattern ∧ s.session = session) _ _ same
  intro a ha b hb pa pb
  exact tf.eq ha hb (Prod.ext (pa.1.trans pb.1.symm) (pa.2.trans pb.2.symm))

theorem C08_retained_converge (l₁ l₂ : List Retained) (hv : ∀ r ∈ l₁, validRetained r)
    (same : ∀ r, r ∈ l₁ ↔ r ∈ l₂) (tf : TieFree Retained.topic Retained.ts l₁) (topic : String) :
    retEntry (mergeRetained l₁ []) topic = retEntry (mergeRetained l₂ []) topic := by
  have hv₂ : ∀ r ∈ l₂, validRetained r := fun r hr => hv r ((same r).mpr hr)
  rw [retEntry_mergeRetained l₁ hv topic [] List.nodup_nil,
    retEntry_mergeRetained l₂ hv₂ topic [] List.nodup_nil]
  apply lwwFold_filter_congr _ (fun r => r.topic = topic) _ _ same
  intro a ha b hb pa pb
  exact tf.eq ha hb (pa.trans pb.symm)

/-! ## what the nodes LIST is a function of the stored entries -/

/-- a session is listed iff it is the stored record of its id and that record is "added" -/
theorem C08_sessAll_iff (st : State) (hk : (st.sessions.map (·.id)).Nodup) (s : SessionMD) :
    s ∈ sessAll st ↔ (sessLookup s.id st.sessions = some s ∧ isAdded s.stamp = true) := by
  simp only [sessAll, sessFilter, List.mem_filter, Bool.and_true, mem_iff_sessLookup st.sessions hk s]

/-- invariant needed above: merging keeps ids unique -/
theorem C08_sessions_nodup (l : List SessionMD) (st : List SessionMD) (hk : (st.map (·.id)).Nodup) :
    ((mergeSessions l st).map (·.id)).Nodup := by
  exact mergeSessions_nodup l st hk

/-- so two nodes that received the same tie-free set of valid session updates list exactly the
    same sessions -/
theorem C08_sessions_listed_equal (p₁ p₂ : Nat) (l₁ l₂ : List SessionMD) (hv : ∀ s ∈ l₁, validSession s)
    (same : ∀ s, s ∈ l₁ ↔ s ∈ l₂) (tf : TieFree SessionMD.id SessionMD.ts l₁) (s : SessionMD) :
    s ∈ sessAll { peer := p₁, sessions := mergeSessions l₁ [] } ↔
    s ∈ sessAll { peer := p₂, sessions := mergeSessions l₂ [] } := by
  rw [C08_sessAll_iff _ (mergeSessions_nodup l₁ [] (by simp)),
    C08_sessAll_iff _ (mergeSessions_nodup l₂ [] (by simp))]
  simp only [C08_sessions_converge l₁ l₂ hv same tf s.id]

/-- an older update never overrides a newer one and never resurrects a removed entry:
    merging an update that is not strictly newer than the stored record changes nothing -/
theorem C08_no_override (st : List SessionMD) (u loc : SessionMD) (hu : validSession u)
    (hl : sessLookup u.id st = some loc) (hold : u.ts ≤ loc.ts) :
    mergeSessions [u] st = st := by
  have hkeep : lwwOutdated SessionMD.ts (sessLookup u.id st) u = false := by
    rw [hl]
    exact decide_eq_false (Int.not_lt.mpr hold)
  rw [mergeSessions_cons, if_neg hu, sessStep, hkeep]
  rfl

/-- `TieFree` is necessary: two different updates with equal timestamps, two arrival orders -/
theorem tie_counterexample :
    let a : SessionMD := ⟨"s", "c1", "m", 1, 0, none, 5, 0⟩
    let b : SessionMD := ⟨"s", "c2", "m", 2, 0, none, 5, 0⟩
    sessLookup "s" (mergeSessions [a, b] []) ≠ sessLookup "s" (mergeSessions [b, a] []) := by
  decide +kernel

end Wasp.Dist
