import Wasp.Model.WireEnc
import Wasp.Proofs.WireT16
/-!
# The two entry paths of the model agree: packets as `CPkt` and packets as bytes

`Wasp/Model/WireEnc.lean` defines `encode : CPkt → Option Bytes`, the MQTT 3.1.1 wire form a well-behaved
client writes, and `WfPkt`, the (decidable) predicate under which `encode` is `some`.

* §1 `encode` is defined exactly on `WfPkt`, and yields bytes (numbers below 256); body sizes.
* §2 frame level: `takeFrame` splits an encoded packet off any buffer, `decodeBody` gives the packet back
     (`CPkt.normalise`: the packet id of a QoS 0 PUBLISH is not transmitted, the decoder reports 0);
     every proper prefix of an encoding makes `takeFrame` wait.
* §3 path agreement: on a connection with a session, bytes `encode p` do what `World.clientPacket c p` does.
* §4 CONNECT.
* §5 `decide`-checked byte strings.
* §6 the decoder's quirks: what is NOT true, as checked counterexamples.
-/
namespace Wasp.Wire
open Wasp.Broker Wasp.Dist Wasp.Wire.AgentT16

/-! ## §1 the domain of the encoder -/

theorem encode_isSome_iff (p : CPkt) : (encode p).isSome ↔ WfPkt p := by
  unfold encode
  split <;> simp [*]

theorem encode_eq_some_iff (p : CPkt) (bs : Bytes) :
    encode p = some bs ↔ WfPkt p ∧ bs = frameOf (ptypeOf p) (pflagsOf p) (bodyOf p) := by
  constructor
  · exact encode_eq
  · rintro ⟨h, rfl⟩
    unfold encode
    rw [if_pos h]

theorem encode_connect : encode .connect = none := rfl
theorem encode_other : encode .other = none := rfl

/-- what the encoder produces are bytes -/
theorem encode_bytes (p : CPkt) (bs : Bytes) (h : encode p = some bs) : ∀ b ∈ bs, b < 256 := by
  obtain ⟨hw, rfl⟩ := encode_eq h
  have := ptypeOf_le p
  exact allBytes_frameOf _ _ _ (by omega) (pflagsOf_lt p hw) (bodyOf_le p hw) (allBytes_bodyOf p hw)

/-- the size bound in `WfPkt`, spelled out: PUBLISH -/
theorem bodyLen_publish (topic payload : String) (qos : Nat) (retain dup : Bool) (mid : Int)
    (h : (unhex payload.toList).isSome) :
    (bodyOf (.publish topic payload qos retain dup mid)).length =
      2 + topic.length + (if qos = 0 then 0 else 2) + payload.length / 2 := by
  rw [bodyOf, List.length_append, List.length_append, encStr_length, payloadBytes_length payload h,
    apply_ite List.length, ← Nat.add_assoc]
  rfl

/-- SUBSCRIBE: packet id, then per filter 2 + length + 1 bytes -/
theorem bodyLen_subscribe (mid : Int) (ts : List (String × Nat)) :
    (bodyOf (.subscribe mid ts)).length = 2 + (ts.map (fun tq => tq.1.length + 3)).sum := by
  simp [bodyOf, be16_length, encSubs_length]

/-- UNSUBSCRIBE: packet id, then per filter 2 + length bytes -/
theorem bodyLen_unsubscribe (mid : Int) (ts : List String) :
    (bodyOf (.unsubscribe mid ts)).length = 2 + (ts.map (fun t => t.length + 2)).sum := by
  simp [bodyOf, be16_length, encUnsubs_length]

/-! ## §2 round trip at frame level -/

/-- the decoder's frame splitter takes exactly the encoded packet off the front of any buffer -/
theorem takeFrame_encode (p : CPkt) (bs rest : Bytes) (h : encode p = some bs) :
    takeFrame (bs ++ rest) = .frame (ptypeOf p) (pflagsOf p) (bodyOf p) rest := by
  obtain ⟨hw, rfl⟩ := encode_eq h
  exact takeFrame_frameOf _ _ _ _ (pflagsOf_lt p hw) (bodyOf_le p hw)

/-- round trip: encode, split, decode (up to the untransmitted packet id of a QoS 0 PUBLISH) -/
theorem encode_roundTrip (p : CPkt) (bs rest : Bytes) (h : encode p = some bs) :
    ∃ t f body, takeFrame (bs ++ rest) = .frame t f body rest ∧ decodeBody t f body = .pkt p.normalise :=
  ⟨_, _, _, takeFrame_encode p bs rest h, decodeBody_encode p (encode_eq h).1⟩

/-- a packet arriving in pieces is not acted upon before it is complete -/
theorem takeFrame_encode_prefix (p : CPkt) (bs : Bytes) (k : Nat) (h : encode p = some bs) (hk : k < bs.length) :
    takeFrame (bs.take k) = .need := by
  obtain ⟨hw, rfl⟩ := encode_eq h
  exact takeFrame_frameOf_take _ _ _ k (bodyOf_le p hw) hk

theorem normalise_idem (p : CPkt) : p.normalise.normalise = p.normalise := by
  cases p <;> simp only [CPkt.normalise]
  split <;> simp [*]

/-- only a QoS 0 PUBLISH is changed by `normalise` -/
theorem normalise_eq_self (p : CPkt) (h : ∀ t pl r d m, p ≠ .publish t pl 0 r d m) : p.normalise = p :=
  by
  cases p with
  | publish t pl q r d m =>
    have h0 : q ≠ 0 := fun h0 => h t pl r d m (h0 ▸ rfl)
    simp only [CPkt.normalise, if_neg h0]
  | _ => rfl

/-! ## §3 path agreement -/

/-- Connection `c` has a session, is being read, and has no unconsumed bytes: the bytes of `p` do exactly what the
    packet `p` does, and the client's write completes. (`setBuf w c []` removes a possible entry `(c, [])` from
    `w.bufs`; the model itself never stores one, see the next two theorems.) -/
theorem rawBytes_encode (w : World) (c : String) (p : CPkt) (bs : Bytes)
    (hs : hasSession w c = true) (hd : w.deaf.contains c = false) (hb : bufOf w c = [])
    (h : encode p = some bs) :
    rawBytes w c bs = ((setBuf w c []).clientPacket c p, true) := by
  obtain ⟨hw, rfl⟩ := encode_eq h
  rw [rawBytes_frame w c _ _ _ (any_of_hasSession hs) hd hb (pflagsOf_lt p hw) (bodyOf_le p hw), decodeBody_encode p hw,
    applyDecoded_session (setBuf w c []) c _ hs]
  exact congrArg (·, true) (clientPacket_normalise _ c p)

/-- no buffer entry for `c` at all: plain equality of the two entry paths -/
theorem rawBytes_encode_eq (w : World) (c : String) (p : CPkt) (bs : Bytes)
    (hs : hasSession w c = true) (hd : w.deaf.contains c = false) (hb : ∀ e ∈ w.bufs, e.1 ≠ c)
    (h : encode p = some bs) :
    rawBytes w c bs = (w.clientPacket c p, true) := by
  rw [rawBytes_encode w c p bs hs hd (bufOf_nil_of_noEntry hb) h, setBuf_nil_of_noEntry hb]

/-- the same under the discipline `setBuf` keeps (no empty buffer is ever stored) -/
theorem rawBytes_encode_eq' (w : World) (c : String) (p : CPkt) (bs : Bytes)
    (hs : hasSession w c = true) (hd : w.deaf.contains c = false) (hb : bufOf w c = [])
    (hinv : ∀ e ∈ w.bufs, e.2 ≠ []) (h : encode p = some bs) :
    (rawBytes w c bs).1 = w.clientPacket c p.normalise := by
  rw [rawBytes_encode_eq w c p bs hs hd (noEntry_of_bufOf_nil hinv hb) h, clientPacket_normalise]

/-- in general: equality up to `bufs`, and the resulting `bufs` are the old ones without `c`'s entry -/
theorem rawBytes_encode_upto_bufs (w : World) (c : String) (p : CPkt) (bs : Bytes)
    (hs : hasSession w c = true) (hd : w.deaf.contains c = false) (hb : bufOf w c = [])
    (h : encode p = some bs) :
    (rawBytes w c bs).1 = ({ w with bufs := w.bufs.filter (fun e => e.1 != c) } : World).clientPacket c p.normalise ∧
    (rawBytes w c bs).1.bufs = w.bufs.filter (fun e => e.1 != c) := by
  rw [rawBytes_encode w c p bs hs hd hb h, clientPacket_normalise]
  have e : setBuf w c [] = ({ w with bufs := w.bufs.filter (fun e => e.1 != c) } : World) := by
    simp [setBuf]
  rw [e]
  exact ⟨rfl, clientPacket_bufs _ _ _⟩

/-- the packet arrives in two writes: the first only buffers, the second completes what one write would have done -/
theorem rawBytes_encode_split (w : World) (c : String) (p : CPkt) (bs : Bytes) (k : Nat)
    (hs : hasSession w c = true) (hd : w.deaf.contains c = false) (hb : bufOf w c = [])
    (h : encode p = some bs) (hk : k < bs.length) :
    rawBytes w c (bs.take k) = (setBuf w c (bs.take k), true) ∧
    rawBytes (rawBytes w c (bs.take k)).1 c (bs.drop k) = ((setBuf w c []).clientPacket c p, true) := by
  have hsp := rawBytes_split w c bs k (any_of_hasSession hs) hd hb (takeFrame_encode_prefix p bs k h hk)
  refine ⟨hsp.1, ?_⟩
  rw [hsp.1, hsp.2]
  exact rawBytes_encode w c p bs hs hd hb h

/-! ## §4 CONNECT -/

theorem encodeConnect_isSome_iff (client user pass : String) (ka : Nat) (will : Option Will) :
    (encodeConnect client user pass ka will).isSome ↔ WfConnect client user pass ka will := by
  unfold encodeConnect
  split <;> simp [*]

theorem encodeConnect_eq {client user pass : String} {ka : Nat} {will : Option Will} {bs : Bytes}
    (h : encodeConnect client user pass ka will = some bs) :
    WfConnect client user pass ka will ∧ bs = frameOf 1 0 (connectBody client user pass ka will) := by
  unfold encodeConnect at h
  split at h
  · rename_i hw
    injection h with h
    exact ⟨hw, h.symm⟩
  · cases h

theorem encodeConnect_bytes (client user pass : String) (ka : Nat) (will : Option Will) (bs : Bytes)
    (h : encodeConnect client user pass ka will = some bs) : ∀ b ∈ bs, b < 256 := by
  obtain ⟨hw, rfl⟩ := encodeConnect_eq h
  exact allBytes_frameOf _ _ _ (by omega) (by omega) (WfConnect.size hw) (allBytes_connectBody _ _ _ _ _ hw)

/-- round trip: the CONNECT packet is split off and decodes to its five components -/
theorem encodeConnect_roundTrip (client user pass : String) (ka : Nat) (will : Option Will) (bs rest : Bytes)
    (h : encodeConnect client user pass ka will = some bs) :
    ∃ body, takeFrame (bs ++ rest) = .frame 1 0 body rest ∧
      decodeBody 1 0 body = .connect client user pass ka will := by
  obtain ⟨hw, rfl⟩ := encodeConnect_eq h
  exact ⟨_, takeFrame_frameOf 1 0 _ rest (by omega) (WfConnect.size hw), decodeBody_connectBody _ _ _ _ _ hw⟩

theorem encodeConnect_prefix (client user pass : String) (ka : Nat) (will : Option Will) (bs : Bytes) (k : Nat)
    (h : encodeConnect client user pass ka will = some bs) (hk : k < bs.length) : takeFrame (bs.take k) = .need := by
  obtain ⟨hw, rfl⟩ := encodeConnect_eq h
  exact takeFrame_frameOf_take _ _ _ k (WfConnect.size hw) hk

/-- a CONNECT packet on an accepted connection without session: the byte path runs `World.connect` on the node that
    accepted the connection, authenticated iff the password is "ok" (the harness convention) -/
theorem rawBytes_encodeConnect (w : World) (c c' : String) (i : Nat) (client user pass : String) (ka : Nat)
    (will : Option Will) (bs : Bytes)
    (hf : w.conns.find? (fun e => e.1 == c) = some (c', i)) (hs : hasSession w c = false)
    (hd : w.deaf.contains c = false) (hb : bufOf w c = [])
    (h : encodeConnect client user pass ka will = some bs) :
    rawBytes w c bs = ((setBuf w c []).connect c i client user (decide (pass = "ok")) ka will, true) := by
  obtain ⟨hw, rfl⟩ := encodeConnect_eq h
  rw [rawBytes_frame w c 1 0 _ (any_of_find hf) hd hb (by decide) (WfConnect.size hw),
    decodeBody_connectBody _ _ _ _ _ hw, applyDecoded_connect (setBuf w c []) c c' i _ _ _ _ _ hf hs]

/-- a second CONNECT on a connection that has a session: the byte path hands `.connect` to the packet path (which
    treats it as a protocol violation and ends the session) -/
theorem rawBytes_encodeConnect_again (w : World) (c : String) (client user pass : String) (ka : Nat)
    (will : Option Will) (bs : Bytes)
    (hs : hasSession w c = true) (hd : w.deaf.contains c = false) (hb : bufOf w c = [])
    (h : encodeConnect client user pass ka will = some bs) :
    rawBytes w c bs = ((setBuf w c []).clientPacket c .connect, true) := by
  obtain ⟨hw, rfl⟩ := encodeConnect_eq h
  rw [rawBytes_frame w c 1 0 _ (any_of_hasSession hs) hd hb (by decide) (WfConnect.size hw),
    decodeBody_connectBody _ _ _ _ _ hw, applyDecoded_session (setBuf w c []) c _ hs]

/-! ## §5 concrete byte strings -/

example : encode .pingreq = some [0xC0, 0] := by decide +kernel
example : encode .disconnect = some [0xE0, 0] := by decide +kernel
example : encode (.puback 7) = some [0x40, 2, 0, 7] := by decide +kernel
example : encode (.pubrec 258) = some [0x50, 2, 1, 2] := by decide +kernel
example : encode (.pubrel 7) = some [0x62, 2, 0, 7] := by decide +kernel
example : encode (.pubcomp 65535) = some [0x70, 2, 255, 255] := by decide +kernel
example : encode (.publish "a/b" "01" 1 false false 7) = some [0x32, 8, 0, 3, 97, 47, 98, 0, 7, 1] := by decide +kernel
example : encode (.publish "a/b" "01ff" 0 true false 0) = some [0x31, 7, 0, 3, 97, 47, 98, 1, 255] := by decide +kernel
example : encode (.publish "a/b" "" 2 false true 300) = some [0x3C, 7, 0, 3, 97, 47, 98, 1, 44] := by decide +kernel
example : encode (.subscribe 5 [("a/#", 1)]) = some [0x82, 8, 0, 5, 0, 3, 97, 47, 35, 1] := by decide +kernel
example : encode (.subscribe 5 [("a", 0), ("+/b", 2)]) = some [0x82, 12, 0, 5, 0, 1, 97, 0, 0, 3, 43, 47, 98, 2] := by
  decide +kernel
example : encode (.unsubscribe 6 ["a/#"]) = some [0xA2, 7, 0, 6, 0, 3, 97, 47, 35] := by decide +kernel
example : encodeConnect "cl" "m" "ok" 60 none =
    some [0x10, 21, 0, 4, 77, 81, 84, 84, 4, 192, 0, 60, 0, 2, 99, 108, 0, 1, 109, 0, 2, 111, 107] := by decide +kernel
example : encodeConnect "cl" "" "" 60 (some ⟨"w", "ff", 1, true⟩) =
    some [0x10, 20, 0, 4, 77, 81, 84, 84, 4, 44, 0, 60, 0, 2, 99, 108, 0, 1, 119, 0, 1, 255] := by decide +kernel
/-- a two-byte remaining length -/
example : encRemLen 321 = [193, 2] := by decide +kernel
example : encRemLen 127 = [127] := by decide +kernel
example : encRemLen 128 = [128, 1] := by decide +kernel
example : encRemLen 268435455 = [255, 255, 255, 127] := by decide +kernel

/-- ill-formed packets have no wire form -/
example : encode (.publish "a/b" "0g" 1 false false 7) = none := by decide +kernel
example : encode (.publish "a/b" "012" 1 false false 7) = none := by decide +kernel
example : encode (.publish "a/b" "01" 1 false false 65536) = none := by decide +kernel
example : encode (.publish "a/b" "01" 3 false false 1) = none := by decide +kernel
example : encode (.puback (-1)) = none := by decide +kernel
example : encode (.subscribe 5 []) = none := by decide +kernel
example : encode (.unsubscribe 5 []) = none := by decide +kernel
example : encode (.subscribe 5 [("a", 3)]) = none := by decide +kernel

/-! ## §6 what is NOT true (the decoder model is faithful to the real decoder's quirks)

Each item is a natural-looking statement that fails, with a checked counterexample, and the true variant. -/

/-- "decodeBody gives back `p`" fails for a QoS 0 PUBLISH with a non-zero packet id: the id is not on the wire.
    True variant: `decodeBody_encode` (`p.normalise`), and `clientPacket_normalise` (the broker does not care). -/
example : encode (.publish "a" "" 0 false false 7) = some [0x30, 3, 0, 1, 97] ∧
    decodeBody 3 0 [0, 1, 97] = .pkt (.publish "a" "" 0 false false 0) := ⟨by decide +kernel, rfl⟩

/-- "every `CPkt` the decoder can produce has an encoding" fails: the decoder accepts QoS 3 (flags 6) and the
    packet path ignores such a PUBLISH; a well-behaved client never sends it and `encode` refuses it. -/
example : decodeBody 3 6 [0, 1, 97, 0, 1] = .pkt (.publish "a" "" 3 false false 1) ∧
    encode (.publish "a" "" 3 false false 1) = none := ⟨rfl, by decide +kernel⟩

/-- "SUBSCRIBE / UNSUBSCRIBE with an empty filter list round-trips" fails: the topic counters reject an empty list,
    SUBSCRIBE with a decoder error, UNSUBSCRIBE with an index-out-of-range panic (both end the connection).
    Hence `ts ≠ []` in `WfPkt`. -/
example : decodeBody 8 2 [0, 5] = .err ∧ decodeBody 10 2 [0, 5] = .panic := ⟨rfl, rfl⟩

/-- "the encoding is the only byte string that decodes to `p`" fails: the frame splitter accepts a padded remaining
    length and ignores the flags nibble of PINGREQ. (A fifth length byte is a panic.) -/
example : takeFrame [0xC0, 0x80, 0] = .frame 12 0 [] [] ∧ takeFrame [0xC5, 0] = .frame 12 5 [] [] ∧
    decodeBody 12 5 [] = .pkt .pingreq ∧ takeFrame [0xC0, 0x80, 0x80, 0x80, 0x80, 0] = .panic [0] :=
  ⟨rfl, rfl, rfl, rfl⟩

set_option maxRecDepth 8000 in
/-- CONNECT: a keep-alive of 0 comes back as 30, and a will with an empty topic comes back as no will; hence
    `0 < keepalive` in `WfConnect` and `topic ≠ ""` in `WfWill`. -/
example : decodeBody 1 0 (connectBody "cl" "" "" 0 none) = .connect "cl" "" "" 30 none ∧
    decodeBody 1 0 (connectBody "cl" "" "" 5 (some ⟨"", "ff", 1, false⟩)) = .connect "cl" "" "" 5 none :=
  ⟨by rfl, by rfl⟩

/-- a world with a registered session on connection "c" (one node) -/
def sessionWorld (bufs : List (String × Bytes)) : World :=
  { (World.init 1) with
    nodes := [{ peer := 1, dist := { peer := 1 }, pool := initPool,
                reg := [{ id := "Sc", conn := "c", client := "x", mount := "m", keepalive := 30, will := none }] }],
    conns := [("c", 0)], bufs := bufs }

/-- "with `bufOf w c = []` the byte path and the packet path give the same world" fails on a world that stores an
    empty buffer `(c, [])`: the byte path drops the entry, the packet path keeps it. The model itself never stores an
    empty buffer (`setBuf`), so this is an unreachable world; true variants: `rawBytes_encode` (general),
    `rawBytes_encode_eq` / `rawBytes_encode_eq'` (no entry / no empty entries), `rawBytes_encode_upto_bufs`. -/
example : hasSession (sessionWorld [("c", [])]) "c" = true ∧ (sessionWorld [("c", [])]).deaf.contains "c" = false ∧
    bufOf (sessionWorld [("c", [])]) "c" = [] ∧ encode .pingreq = some [0xC0, 0] ∧
    (rawBytes (sessionWorld [("c", [])]) "c" [0xC0, 0]).1.bufs = [] ∧
    ((sessionWorld [("c", [])]).clientPacket "c" .pingreq).bufs = [("c", [])] := by decide +kernel

/-- "a packet that arrived only in part is never acted upon" holds while the connection stays open
    (`takeFrame_encode_prefix`, `rawBytes_encode_split`) but fails when the client closes the connection: the
    part that is there is decoded zero-padded. Here 9 of the 10 bytes of a QoS 1 PUBLISH (payload "01") arrive,
    the client closes, and the broker acknowledges a PUBLISH (with payload "00") that was never sent. -/
example : encode (.publish "a/b" "01" 1 false false 7) = some ([0x32, 8, 0, 3, 97, 47, 98, 0, 7] ++ [1]) ∧
    (rawBytes (sessionWorld []) "c" [0x32, 8, 0, 3, 97, 47, 98, 0, 7]).1.out = [] ∧
    (closeFromClientRaw (rawBytes (sessionWorld []) "c" [0x32, 8, 0, 3, 97, 47, 98, 0, 7]).1 "c").out =
      [("c", .puback 7), ("c", .closed)] := by decide +kernel

end Wasp.Wire
