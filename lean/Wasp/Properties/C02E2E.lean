import Wasp.Properties.C02Pool
import Wasp.Properties.Reachable2
import Wasp.Properties.E2E
import Wasp.Properties.C17E2E
import Wasp.Properties.C03
import Wasp.Proofs.BrokerT12
/-!
# C02 / C03 / C06 end to end for a QoS 1 delivery on one node

A QoS 1 publish whose only local recipient has a QoS 1 subscription: on every reachable world (the pool not exhausted,
the log accepting) the recipient is written the message under the identifier the pool hands out — which by the pool /
in-flight invariant of reachable worlds is not in flight — and THEN the publisher is acknowledged; when the recipient
answers PUBACK with that identifier the exchange is gone from the in-flight table and the identifier is free again;
if it stays silent, the expiry sweep writes the message again under the same identifier.
-/
namespace Wasp.Broker
open Wasp.Dist Wasp.Topic Wasp.Crdt Wasp.Broker.AgentT12

/- `localRecipients w pt` (the recipients node 0 resolves for a stored publish) is defined in
   Wasp/Proofs/BrokerT12.lean, in namespace `Wasp.Broker`:
   `((subByPattern (w.node 0).dist pt).filter (fun u => u.peer == (w.node 0).peer)).map (fun u => (u.session, u.qos))` -/

/-- the identifier the pool of node 0 hands out next, on a reachable world: nothing is filed under its key, it lies within
    the pool's bounds and is no longer free once drawn -/
theorem e2e_fresh (w : World) (hr : Reachable w) (sid : String) (hsid : ∀ s, sid ≠ s ++ "/in")
    (hpool : 0 < (IdPool.get (w.node 0).pool).2) :
    Ack.msgFind (Ack.hashKey sid (IdPool.get (w.node 0).pool).2) (w.node 0).acks.msgs = none ∧
    storedFind (Ack.hashKey sid (IdPool.get (w.node 0).pool).2) (w.node 0).stored = none ∧
    IdPool.Inv (IdPool.get (w.node 0).pool).1 ∧
    (w.node 0).pool.min ≤ (IdPool.get (w.node 0).pool).2 ∧ (IdPool.get (w.node 0).pool).2 ≤ (w.node 0).pool.max ∧
    ¬ IdPool.freeIn (IdPool.get (w.node 0).pool).1.ivs (IdPool.get (w.node 0).pool).2 := by
  have hinv : WorldPoolInv w := (reachable_inv2 w hr).base.pool
  have hne : (w.node 0).pool.ivs ≠ [] := by
    intro he
    rw [IdPool.get_empty _ he] at hpool
    simp at hpool
  obtain ⟨hI, hfree, hmin, hmax, hiff⟩ := IdPool.get_spec _ (hinv 0).pool hne
  exact ⟨C02_fresh_id_not_inflight_of_suffix w 0 sid hinv hsid hpool, stored_fresh (hinv 0) sid hsid _ hfree, hI, hmin, hmax,
    fun h => ((hiff _).1 h).2 rfl⟩

theorem C02_e2e_qos1_delivery (w : World) (hr : Reachable w) (hlen : w.nodes.length = 1)
    (p r : Sess) (hp : (w.node 0).sess p.id = some p) (hrr : (w.node 0).sess r.id = some r)
    (topic payload : String) (dup : Bool) (mid : Int)
    (hrc : localRecipients w (prefixMountPoint p.mount topic) = [(r.id, 1)])
    (hsid : ∀ s, r.id ≠ s ++ "/in")
    (hpool : 0 < (IdPool.get (w.node 0).pool).2)
    (hlog : (w.node 0).logFailAll = false ∧ (w.node 0).logFailAt.contains (w.node 0).logCalls = false) :
    (w.process 0 p.id (.publish topic payload 1 false dup mid)).1.out =
      w.out ++ [(r.conn, Pkt.publish (trimMountPoint r.mount (prefixMountPoint p.mount topic)) payload 1 false dup (IdPool.get (w.node 0).pool).2),
                (p.conn, Pkt.puback mid)] :=
  (publish_delivered w hlen (reachable_subs_local w hr hlen) p r hp hrr topic payload dup mid hrc hpool
    (e2e_fresh w hr r.id hsid hpool).1 hlog).1

/-- … the exchange is then in flight under that identifier, which is no longer free -/
theorem C02_e2e_qos1_in_flight (w : World) (hr : Reachable w) (hlen : w.nodes.length = 1)
    (p r : Sess) (hp : (w.node 0).sess p.id = some p) (hrr : (w.node 0).sess r.id = some r)
    (topic payload : String) (dup : Bool) (mid : Int)
    (hrc : localRecipients w (prefixMountPoint p.mount topic) = [(r.id, 1)])
    (hsid : ∀ s, r.id ≠ s ++ "/in")
    (hpool : 0 < (IdPool.get (w.node 0).pool).2)
    (hlog : (w.node 0).logFailAll = false ∧ (w.node 0).logFailAt.contains (w.node 0).logCalls = false) :
    let w' := (w.process 0 p.id (.publish topic payload 1 false dup mid)).1
    let id := (IdPool.get (w.node 0).pool).2
    (Ack.msgFind (Ack.hashKey r.id id) (w'.node 0).acks.msgs).isSome = true ∧ ¬ IdPool.freeIn (w'.node 0).pool.ivs id := by
  obtain ⟨hfresh, _, _, _, _, hnf⟩ := e2e_fresh w hr r.id hsid hpool
  obtain ⟨_, hD⟩ := publish_delivered w hlen (reachable_subs_local w hr hlen) p r hp hrr topic payload dup mid hrc hpool hfresh hlog
  dsimp only
  rw [hD.acks, hD.pool, msgFind_snoc_self hfresh]
  exact ⟨rfl, hnf⟩

/-- … the recipient's PUBACK with that identifier completes it: nothing is in flight under it any more, the identifier
    is free again, nothing is written -/
theorem C02_e2e_qos1_acked (w : World) (hr : Reachable w) (hlen : w.nodes.length = 1)
    (p r : Sess) (hp : (w.node 0).sess p.id = some p) (hrr : (w.node 0).sess r.id = some r)
    (topic payload : String) (dup : Bool) (mid : Int)
    (hrc : localRecipients w (prefixMountPoint p.mount topic) = [(r.id, 1)])
    (hsid : ∀ s, r.id ≠ s ++ "/in")
    (hpool : 0 < (IdPool.get (w.node 0).pool).2)
    (hlog : (w.node 0).logFailAll = false ∧ (w.node 0).logFailAt.contains (w.node 0).logCalls = false) :
    let w' := (w.process 0 p.id (.publish topic payload 1 false dup mid)).1
    let id := (IdPool.get (w.node 0).pool).2
    let w'' := (w'.process 0 r.id (.puback id)).1
    Ack.msgFind (Ack.hashKey r.id id) (w''.node 0).acks.msgs = none ∧ IdPool.freeIn (w''.node 0).pool.ivs id ∧ w''.out = w'.out := by
  obtain ⟨hfresh, hsf, hI, hmin, hmax, _⟩ := e2e_fresh w hr r.id hsid hpool
  obtain ⟨_, hD⟩ := publish_delivered w hlen (reachable_subs_local w hr hlen) p r hp hrr topic payload dup mid hrc hpool hfresh hlog
  dsimp only
  -- the world is made a variable: left as a term, the `exact` below would have the unifier unfold `World.process`
  generalize (w.process 0 p.id (.publish topic payload 1 false dup mid)).1 = w' at hD ⊢
  obtain ⟨r', hr', _, _⟩ := hD.cm.sess_some hrr
  obtain ⟨h1, h2, h3⟩ := ack_flight (ends_puback r.id _ payload false dup _) hD.flight rfl hlen (by rw [hr']; rfl) hfresh hsf
  rw [h1, h2]
  have hmm := IdPool.get_min_max (w.node 0).pool
  exact ⟨hfresh, ((IdPool.put_spec _ hI _).2 _).2 (Or.inr ⟨rfl, by rw [hmm.1]; exact hmin, by rw [hmm.2]; exact hmax⟩), h3⟩

/-- … and if the recipient stays silent, the expiry sweep writes the same message again under the same identifier
    (publisher and recipient may be the same session: `hne` of the next theorem is not needed) -/
theorem C03_e2e_qos1_retransmitted' (w : World) (hr : Reachable w) (hlen : w.nodes.length = 1)
    (p r : Sess) (hp : (w.node 0).sess p.id = some p) (hrr : (w.node 0).sess r.id = some r)
    (topic payload : String) (dup : Bool) (mid : Int)
    (hrc : localRecipients w (prefixMountPoint p.mount topic) = [(r.id, 1)])
    (hsid : ∀ s, r.id ≠ s ++ "/in")
    (hpool : 0 < (IdPool.get (w.node 0).pool).2)
    (hlog : (w.node 0).logFailAll = false ∧ (w.node 0).logFailAt.contains (w.node 0).logCalls = false)
    (hidle : (w.node 0).acks.msgs = []) :
    let w' := (w.process 0 p.id (.publish topic payload 1 false dup mid)).1
    let id := (IdPool.get (w.node 0).pool).2
    (w'.sweep 0).out = w'.out ++ [(r.conn, Pkt.publish (trimMountPoint r.mount (prefixMountPoint p.mount topic)) payload 1 false dup id)] := by
  obtain ⟨hfresh, hsf, _⟩ := e2e_fresh w hr r.id hsid hpool
  obtain ⟨_, hD⟩ := publish_delivered w hlen (reachable_subs_local w hr hlen) p r hp hrr topic payload dup mid hrc hpool hfresh hlog
  have hinv' := C02Pool_process w 0 p.id (.publish topic payload 1 false dup mid) (reachable_inv2 w hr).base.pool
  dsimp only
  generalize (w.process 0 p.id (.publish topic payload 1 false dup mid)).1 = w' at hD hinv' ⊢
  obtain ⟨r', hr', hc, _⟩ := hD.cm.sess_some hrr
  rw [← hc]
  exact sweep_out kind1 w w' r.id _ payload false dup _ _ hD.flight hlen (hinv' 0).qinv rfl r' hr' (by omega) hidle hsf

theorem C03_e2e_qos1_retransmitted (w : World) (hr : Reachable w) (hlen : w.nodes.length = 1)
    (p r : Sess) (hp : (w.node 0).sess p.id = some p) (hrr : (w.node 0).sess r.id = some r) (hne : p.id ≠ r.id)
    (topic payload : String) (dup : Bool) (mid : Int)
    (hrc : localRecipients w (prefixMountPoint p.mount topic) = [(r.id, 1)])
    (hsid : ∀ s, r.id ≠ s ++ "/in")
    (hpool : 0 < (IdPool.get (w.node 0).pool).2)
    (hlog : (w.node 0).logFailAll = false ∧ (w.node 0).logFailAt.contains (w.node 0).logCalls = false)
    (hidle : (w.node 0).acks.msgs = []) :
    let w' := (w.process 0 p.id (.publish topic payload 1 false dup mid)).1
    let id := (IdPool.get (w.node 0).pool).2
    (w'.sweep 0).out = w'.out ++ [(r.conn, Pkt.publish (trimMountPoint r.mount (prefixMountPoint p.mount topic)) payload 1 false dup id)] :=
  have _ := hne
  C03_e2e_qos1_retransmitted' w hr hlen p r hp hrr topic payload dup mid hrc hsid hpool hlog hidle

/-! ### the hypotheses can be met, and `hidle` cannot simply be dropped -/

/-- "a" and "b" connect to a one-node cluster, "b" subscribes to "t" with QoS 1 -/
def C02E2E_ops : List BOp :=
  [.connect "a" 0 "ca" "m" true 30 none, .connect "b" 0 "cb" "m" true 30 none, .packet "b" (.subscribe 1 [("t", 1)])]

def C02E2E_world : World := run (World.init 1) C02E2E_ops

theorem C02E2E_world_reachable : Reachable C02E2E_world := ⟨1, C02E2E_ops, rfl⟩

/-- every hypothesis of the four theorems holds in `C02E2E_world` for publisher "Sa", recipient "Sb", topic "t" -/
example :
    C02E2E_world.nodes.length = 1 ∧
    ((C02E2E_world.node 0).sess "Sa").map (fun s => (s.id, s.mount)) = some ("Sa", "m") ∧
    ((C02E2E_world.node 0).sess "Sb").map (fun s => s.id) = some "Sb" ∧
    localRecipients C02E2E_world (prefixMountPoint "m" "t") = [("Sb", 1)] ∧
    (IdPool.get (C02E2E_world.node 0).pool).2 = 1 ∧
    (C02E2E_world.node 0).logFailAll = false ∧ (C02E2E_world.node 0).logFailAt = [] ∧
    (C02E2E_world.node 0).acks.msgs = [] := by decide +kernel

/-- without `hidle` the conclusion of `C03_e2e_qos1_retransmitted` fails on a reachable world: while the delivery
    "one" (identifier 1) is still in flight, "two" is published (identifier 2); the sweep repeats BOTH -/
example :
    let w := applyOp C02E2E_world (.packet "a" (.publish "t" "one" 1 false false 7))
    let w' := (w.process 0 "Sa" (.publish "t" "two" 1 false false 8)).1
    (w.node 0).acks.msgs.map (·.1) = ["Sb/1"] ∧ (IdPool.get (w.node 0).pool).2 = 2 ∧
    (w'.sweep 0).out = w'.out ++ [("b", Pkt.publish "t" "one" 1 false false 1), ("b", Pkt.publish "t" "two" 1 false false 2)] := by
  decide +kernel

/-- `hidle` is sufficient, not necessary: an inbound QoS 2 handshake in flight is expired by the sweep as well, but its
    callback writes nothing -/
example :
    let w := applyOp C02E2E_world (.packet "a" (.publish "zz" "q2" 2 false false 5))
    let w' := (w.process 0 "Sa" (.publish "t" "two" 1 false false 8)).1
    (w.node 0).acks.msgs.map (·.1) = ["Sa/in/5"] ∧
    (w'.sweep 0).out = w'.out ++ [("b", Pkt.publish "t" "two" 1 false false 1)] := by
  decide +kernel

end Wasp.Broker
