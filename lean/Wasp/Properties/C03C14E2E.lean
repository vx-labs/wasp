import Wasp.Properties.C02E2E
import Wasp.Properties.C05C12E2E
import Wasp.Properties.E2EMulti
import Wasp.Properties.C03
import Wasp.Properties.C14
import Wasp.Proofs.BrokerT18
/-!
# C03 (outbound QoS 2 flow) and C14 (acknowledgement ⇔ every destination stored it) end to end

* C03: one QoS 2 delivery on a reachable one-node world — PUBLISH under the pool's next identifier; the recipient's
  PUBREC is answered by PUBREL under the same identifier; its PUBCOMP completes the exchange: nothing is in flight
  under that identifier any more, the identifier is free again; when the recipient stays silent after the PUBLISH the
  sweep writes the PUBLISH again, when it stays silent after the PUBREL the sweep writes the PUBREL again.
* C14: on every reachable world a QoS 1 publish is acknowledged to the publisher if and only if every destination
  (the peers of the live matching subscriptions in the publisher's node's view) is a node reachable from the
  publisher's node whose log accepts the message.
-/
namespace Wasp.Broker
open Wasp.Dist Wasp.Topic Wasp.Crdt Wasp.Broker.AgentT18

/-- What a QoS 1 publish appends to the output contains the PUBACK to the publisher if and only if every destination
    stored the message (`distribute` writes PUBLISH packets only, `AgentC.distribute_pubExt`). -/
theorem publish1_acked_iff (w : World) (hr : Reachable w) (i : Nat) (hi : i < w.nodes.length) (p : Sess)
    (hp : (w.node i).sess p.id = some p) (topic payload : String) (dup : Bool) (mid : Int) :
    ∃ l, (w.process i p.id (.publish topic payload 1 false dup mid)).1.out = w.out ++ l ∧
      ((p.conn, Pkt.puback mid) ∈ l ↔
        ∀ peer ∈ destinations w i ⟨prefixMountPoint p.mount topic, payload, 1, false, dup⟩,
          ∃ j, j < w.nodes.length ∧ (w.node j).peer = peer ∧ reachableFrom w i j = true ∧ logAccepts (w.node j) = true) := by
  rw [AgentT12.process_publish1 w i p.id p hp, ← C14_result_reachable w hr i _ hi]
  obtain ⟨l, hl, hpub⟩ := AgentC.distribute_pubExt w i ⟨prefixMountPoint p.mount topic, payload, 1, false, dup⟩
  by_cases hok : (w.distribute i ⟨prefixMountPoint p.mount topic, payload, 1, false, dup⟩).2 = true
  · rw [if_pos hok, AgentC.emit_out, hl, List.append_assoc]
    exact ⟨_, rfl, iff_of_true (List.mem_append_right l (List.mem_singleton.2 rfl)) hok⟩
  · rw [if_neg hok]
    refine ⟨l, hl, iff_of_false (fun h => ?_) hok⟩
    have := hpub _ h
    simp [AgentC.isPub] at this

/-- C14: PUBACK ⇔ every destination stored the message -/
theorem C14_e2e_ack_iff_all_stored (w : World) (hr : Reachable w) (i : Nat) (hi : i < w.nodes.length) (p : Sess)
    (hp : (w.node i).sess p.id = some p) (topic payload : String) (dup : Bool) (mid : Int)
    (hnew : (p.conn, Pkt.puback mid) ∉ w.out) :
    (p.conn, Pkt.puback mid) ∈ (w.process i p.id (.publish topic payload 1 false dup mid)).1.out ↔
      ∀ peer ∈ destinations w i ⟨prefixMountPoint p.mount topic, payload, 1, false, dup⟩,
        ∃ j, j < w.nodes.length ∧ (w.node j).peer = peer ∧ reachableFrom w i j = true ∧ logAccepts (w.node j) = true := by
  obtain ⟨l, hl, h⟩ := publish1_acked_iff w hr i hi p hp topic payload dup mid
  rw [hl, List.mem_append, ← h]
  exact or_iff_right hnew

/-- C03: the QoS 2 delivery, step 1 — PUBLISH under the pool's next identifier, then PUBACK to the (QoS 1) publisher -/
theorem C03_e2e_qos2_publish (w : World) (hr : Reachable w) (hlen : w.nodes.length = 1)
    (p r : Sess) (hp : (w.node 0).sess p.id = some p) (hrr : (w.node 0).sess r.id = some r)
    (topic payload : String) (dup : Bool) (mid : Int)
    (hrc : localRecipients w (prefixMountPoint p.mount topic) = [(r.id, 2)])
    (hsid : ∀ s, r.id ≠ s ++ "/in")
    (hpool : 0 < (IdPool.get (w.node 0).pool).2)
    (hlog : (w.node 0).logFailAll = false ∧ (w.node 0).logFailAt.contains (w.node 0).logCalls = false) :
    (w.process 0 p.id (.publish topic payload 1 false dup mid)).1.out =
      w.out ++ [(r.conn, Pkt.publish (trimMountPoint r.mount (prefixMountPoint p.mount topic)) payload 2 false dup (IdPool.get (w.node 0).pool).2),
                (p.conn, Pkt.puback mid)] :=
  (AgentT12.publish_flight AgentT12.kind2 w hlen (reachable_subs_local w hr hlen) p r hp hrr topic payload dup mid hrc hpool
    (e2e_fresh w hr r.id hsid hpool).1 hlog).1

/-- step 2 — the recipient's PUBREC is answered by PUBREL under the same identifier, which stays reserved -/
theorem C03_e2e_qos2_pubrec (w : World) (hr : Reachable w) (hlen : w.nodes.length = 1)
    (p r : Sess) (hp : (w.node 0).sess p.id = some p) (hrr : (w.node 0).sess r.id = some r)
    (topic payload : String) (dup : Bool) (mid : Int)
    (hrc : localRecipients w (prefixMountPoint p.mount topic) = [(r.id, 2)])
    (hsid : ∀ s, r.id ≠ s ++ "/in")
    (hpool : 0 < (IdPool.get (w.node 0).pool).2)
    (hlog : (w.node 0).logFailAll = false ∧ (w.node 0).logFailAt.contains (w.node 0).logCalls = false) :
    let w1 := (w.process 0 p.id (.publish topic payload 1 false dup mid)).1
    let id := (IdPool.get (w.node 0).pool).2
    let w2 := (w1.process 0 r.id (.pubrec id)).1
    w2.out = w1.out ++ [(r.conn, Pkt.pubrel id)] ∧ ¬ IdPool.freeIn (w2.node 0).pool.ivs id := by
  obtain ⟨hfresh, hsf, _, _, _, hnf⟩ := e2e_fresh w hr r.id hsid hpool
  obtain ⟨_, hF, _⟩ := AgentT12.publish_flight AgentT12.kind2 w hlen (reachable_subs_local w hr hlen) p r hp hrr topic payload dup mid hrc hpool
    hfresh hlog
  dsimp only
  -- the worlds are made variables: left as terms, every `exact` below would have the unifier unfold `World.process`
  generalize (w.process 0 p.id (.publish topic payload 1 false dup mid)).1 = w1 at hF ⊢
  obtain ⟨r', hr', hc, _⟩ := hF.cm.sess_some hrr
  obtain ⟨hout, hF2⟩ := pubrec_flight w w1 r.id _ payload false dup _ _ hF rfl hlen r' hr' (by omega) hfresh hsf
  rw [hF2.pool, ← hc]
  exact ⟨hout, hnf⟩

/-- step 3 — the recipient's PUBCOMP completes the exchange: nothing in flight under the identifier, identifier free -/
theorem C03_e2e_qos2_pubcomp (w : World) (hr : Reachable w) (hlen : w.nodes.length = 1)
    (p r : Sess) (hp : (w.node 0).sess p.id = some p) (hrr : (w.node 0).sess r.id = some r)
    (topic payload : String) (dup : Bool) (mid : Int)
    (hrc : localRecipients w (prefixMountPoint p.mount topic) = [(r.id, 2)])
    (hsid : ∀ s, r.id ≠ s ++ "/in")
    (hpool : 0 < (IdPool.get (w.node 0).pool).2)
    (hlog : (w.node 0).logFailAll = false ∧ (w.node 0).logFailAt.contains (w.node 0).logCalls = false) :
    let w1 := (w.process 0 p.id (.publish topic payload 1 false dup mid)).1
    let id := (IdPool.get (w.node 0).pool).2
    let w2 := (w1.process 0 r.id (.pubrec id)).1
    let w3 := (w2.process 0 r.id (.pubcomp id)).1
    w3.out = w2.out ∧ Ack.msgFind (Ack.hashKey r.id id) (w3.node 0).acks.msgs = none ∧ IdPool.freeIn (w3.node 0).pool.ivs id := by
  obtain ⟨hfresh, hsf, hI, hmin, hmax, _⟩ := e2e_fresh w hr r.id hsid hpool
  obtain ⟨_, hF, _⟩ := AgentT12.publish_flight AgentT12.kind2 w hlen (reachable_subs_local w hr hlen) p r hp hrr topic payload dup mid hrc hpool
    hfresh hlog
  dsimp only
  generalize (w.process 0 p.id (.publish topic payload 1 false dup mid)).1 = w1 at hF ⊢
  obtain ⟨r', hr', _, _⟩ := hF.cm.sess_some hrr
  obtain ⟨_, hF2⟩ := pubrec_flight w w1 r.id _ payload false dup _ _ hF rfl hlen r' hr' (by omega) hfresh hsf
  generalize (w1.process 0 r.id (.pubrec (IdPool.get (w.node 0).pool).2)).1 = w2 at hF2 ⊢
  obtain ⟨r'', hr'', _, _⟩ := hF2.cm.sess_some hrr
  obtain ⟨h1, h2, h3⟩ := AgentT12.ack_flight (AgentT12.ends_pubcomp r.id _) hF2 rfl hlen (by rw [hr'']; rfl) hfresh hsf
  rw [h1, h2]
  have hmm := IdPool.get_min_max (w.node 0).pool
  exact ⟨h3, hfresh, ((IdPool.put_spec _ hI _).2 _).2 (Or.inr ⟨rfl, by rw [hmm.1]; exact hmin, by rw [hmm.2]; exact hmax⟩)⟩

/-- silence after the PUBLISH: the sweep writes the PUBLISH again, under the same identifier -/
theorem C03_e2e_qos2_publish_retransmitted (w : World) (hr : Reachable w) (hlen : w.nodes.length = 1)
    (p r : Sess) (hp : (w.node 0).sess p.id = some p) (hrr : (w.node 0).sess r.id = some r)
    (topic payload : String) (dup : Bool) (mid : Int)
    (hrc : localRecipients w (prefixMountPoint p.mount topic) = [(r.id, 2)])
    (hsid : ∀ s, r.id ≠ s ++ "/in")
    (hpool : 0 < (IdPool.get (w.node 0).pool).2)
    (hlog : (w.node 0).logFailAll = false ∧ (w.node 0).logFailAt.contains (w.node 0).logCalls = false)
    (hidle : (w.node 0).acks.msgs = []) :
    let w1 := (w.process 0 p.id (.publish topic payload 1 false dup mid)).1
    let id := (IdPool.get (w.node 0).pool).2
    (w1.sweep 0).out = w1.out ++ [(r.conn, Pkt.publish (trimMountPoint r.mount (prefixMountPoint p.mount topic)) payload 2 false dup id)] := by
  obtain ⟨hfresh, hsf, _⟩ := e2e_fresh w hr r.id hsid hpool
  obtain ⟨_, hF, _⟩ := AgentT12.publish_flight AgentT12.kind2 w hlen (reachable_subs_local w hr hlen) p r hp hrr topic payload dup mid hrc hpool
    hfresh hlog
  have hinv1 := C02Pool_process w 0 p.id (.publish topic payload 1 false dup mid) (reachable_inv2 w hr).base.pool
  dsimp only
  generalize (w.process 0 p.id (.publish topic payload 1 false dup mid)).1 = w1 at hF hinv1 ⊢
  obtain ⟨r', hr', hc, _⟩ := hF.cm.sess_some hrr
  rw [← hc]
  exact AgentT12.sweep_out AgentT12.kind2 w w1 r.id _ payload false dup _ _ hF hlen (hinv1 0).qinv rfl r' hr' (by omega) hidle hsf

/-- silence after the PUBREL: the sweep writes the PUBREL again -/
theorem C03_e2e_qos2_pubrel_retransmitted (w : World) (hr : Reachable w) (hlen : w.nodes.length = 1)
    (p r : Sess) (hp : (w.node 0).sess p.id = some p) (hrr : (w.node 0).sess r.id = some r)
    (topic payload : String) (dup : Bool) (mid : Int)
    (hrc : localRecipients w (prefixMountPoint p.mount topic) = [(r.id, 2)])
    (hsid : ∀ s, r.id ≠ s ++ "/in")
    (hpool : 0 < (IdPool.get (w.node 0).pool).2)
    (hlog : (w.node 0).logFailAll = false ∧ (w.node 0).logFailAt.contains (w.node 0).logCalls = false)
    (hidle : (w.node 0).acks.msgs = []) :
    let w1 := (w.process 0 p.id (.publish topic payload 1 false dup mid)).1
    let id := (IdPool.get (w.node 0).pool).2
    let w2 := (w1.process 0 r.id (.pubrec id)).1
    (w2.sweep 0).out = w2.out ++ [(r.conn, Pkt.pubrel id)] := by
  obtain ⟨hfresh, hsf, _⟩ := e2e_fresh w hr r.id hsid hpool
  obtain ⟨_, hF, _⟩ := AgentT12.publish_flight AgentT12.kind2 w hlen (reachable_subs_local w hr hlen) p r hp hrr topic payload dup mid hrc hpool
    hfresh hlog
  have hinv1 := C02Pool_process w 0 p.id (.publish topic payload 1 false dup mid) (reachable_inv2 w hr).base.pool
  dsimp only
  generalize (w.process 0 p.id (.publish topic payload 1 false dup mid)).1 = w1 at hF hinv1 ⊢
  obtain ⟨r', hr', _, _⟩ := hF.cm.sess_some hrr
  obtain ⟨_, hF2⟩ := pubrec_flight w w1 r.id _ payload false dup _ _ hF rfl hlen r' hr' (by omega) hfresh hsf
  have hinv2 := C02Pool_process w1 0 r.id (.pubrec (IdPool.get (w.node 0).pool).2) hinv1
  generalize (w1.process 0 r.id (.pubrec (IdPool.get (w.node 0).pool).2)).1 = w2 at hF2 hinv2 ⊢
  obtain ⟨r'', hr'', hc, _⟩ := hF2.cm.sess_some hrr
  rw [← hc]
  exact sweep_rel w w2 r.id _ _ hF2 hlen (hinv2 0).qinv rfl r'' hr'' (by omega) hidle hsf

/-! ### the hypotheses can be met; `hidle` cannot simply be dropped; both sides of C14 occur -/

/-- "a" and "b" connect to a one-node cluster, "b" subscribes to "t" with QoS 2 -/
def C03E2E_ops : List BOp :=
  [.connect "a" 0 "ca" "m" true 30 none, .connect "b" 0 "cb" "m" true 30 none, .packet "b" (.subscribe 1 [("t", 2)])]

def C03E2E_world : World := run (World.init 1) C03E2E_ops

theorem C03E2E_world_reachable : Reachable C03E2E_world := ⟨1, C03E2E_ops, rfl⟩

/-- every hypothesis of the C03 theorems holds in `C03E2E_world` for publisher "Sa", recipient "Sb", topic "t" -/
example :
    C03E2E_world.nodes.length = 1 ∧
    ((C03E2E_world.node 0).sess "Sa").map (fun s => (s.id, s.conn, s.mount)) = some ("Sa", "a", "m") ∧
    ((C03E2E_world.node 0).sess "Sb").map (fun s => (s.id, s.conn, s.mount)) = some ("Sb", "b", "m") ∧
    localRecipients C03E2E_world (prefixMountPoint "m" "t") = [("Sb", 2)] ∧
    (IdPool.get (C03E2E_world.node 0).pool).2 = 1 ∧
    (C03E2E_world.node 0).logFailAll = false ∧ (C03E2E_world.node 0).logFailAt = [] ∧
    (C03E2E_world.node 0).acks.msgs = [] := by decide +kernel

/-- the whole exchange there, by evaluation: PUBLISH 1 then PUBACK 7; PUBREC 1 → PUBREL 1 (identifier 1 reserved, the
    PUBREL entry in flight under the key of the PUBLISH entry); PUBCOMP 1 → nothing written, nothing in flight, identifier
    1 free; the sweep after the PUBLISH repeats the PUBLISH, the sweep after the PUBREL repeats the PUBREL -/
example :
    let w := C03E2E_world
    let w1 := (w.process 0 "Sa" (.publish "t" "hello" 1 false false 7)).1
    let w2 := (w1.process 0 "Sb" (.pubrec 1)).1
    let w3 := (w2.process 0 "Sb" (.pubcomp 1)).1
    w1.out = w.out ++ [("b", Pkt.publish "t" "hello" 2 false false 1), ("a", Pkt.puback 7)] ∧
    (w1.node 0).acks.msgs = [("Sb/1", ⟨.pubrec, .publish, 1, 3000⟩)] ∧
    w2.out = w1.out ++ [("b", Pkt.pubrel 1)] ∧
    (w2.node 0).acks.msgs = [("Sb/1", ⟨.pubcomp, .pubrel, 1, 3000⟩)] ∧ ¬ IdPool.freeIn (w2.node 0).pool.ivs 1 ∧
    w3.out = w2.out ∧ (w3.node 0).acks.msgs = [] ∧ IdPool.freeIn (w3.node 0).pool.ivs 1 ∧
    (w1.sweep 0).out = w1.out ++ [("b", Pkt.publish "t" "hello" 2 false false 1)] ∧
    (w2.sweep 0).out = w2.out ++ [("b", Pkt.pubrel 1)] := by
  decide +kernel

/-- publisher and recipient may be the same session (`p = r`): "b" publishes to its own QoS 2 subscription -/
example :
    let w := C03E2E_world
    let w1 := (w.process 0 "Sb" (.publish "t" "self" 1 false false 9)).1
    let w2 := (w1.process 0 "Sb" (.pubrec 1)).1
    w1.out = w.out ++ [("b", Pkt.publish "t" "self" 2 false false 1), ("b", Pkt.puback 9)] ∧
    w2.out = w1.out ++ [("b", Pkt.pubrel 1)] ∧
    (w2.sweep 0).out = w2.out ++ [("b", Pkt.pubrel 1)] := by
  decide +kernel

/-- without `hidle` the conclusion of `C03_e2e_qos2_pubrel_retransmitted` fails on a reachable world: while the delivery
    "one" (identifier 1) is still waiting for its PUBREC, "two" is published (identifier 2) and answered by PUBREC; the
    sweep repeats the PUBLISH of "one" AND the PUBREL of "two" -/
example :
    let w := applyOp C03E2E_world (.packet "a" (.publish "t" "one" 1 false false 7))
    let w1 := (w.process 0 "Sa" (.publish "t" "two" 1 false false 8)).1
    let w2 := (w1.process 0 "Sb" (.pubrec 2)).1
    (w.node 0).acks.msgs.map (·.1) = ["Sb/1"] ∧ (IdPool.get (w.node 0).pool).2 = 2 ∧
    w2.out = w1.out ++ [("b", Pkt.pubrel 2)] ∧
    (w2.sweep 0).out = w2.out ++ [("b", Pkt.publish "t" "one" 2 false false 1), ("b", Pkt.pubrel 2)] := by
  decide +kernel

/-- C14, both sides, on a reachable two-node world: "p" on node 0, "s" on node 1 subscribes to "t", gossip delivered —
    node 1 (peer 2) is the only destination -/
def C14E2E_ops : List BOp :=
  [.connect "p" 0 "cp" "m" true 30 none, .connect "s" 1 "cs" "m" true 30 none, .packet "s" (.subscribe 1 [("t", 0)]),
   .gossipAll]

def C14E2E_world : World := run (World.init 2) C14E2E_ops

theorem C14E2E_world_reachable : Reachable C14E2E_world := ⟨2, C14E2E_ops, rfl⟩

example :
    let w := C14E2E_world
    let wu := applyOp w (.unreachable 1 true)
    let wl := applyOp w (.logFailAll 1 true)
    destinations w 0 ⟨prefixMountPoint "m" "t", "x", 1, false, false⟩ = [2] ∧
    -- node 1 reachable and accepting: stored there, delivered, acknowledged
    (w.process 0 "Sp" (.publish "t" "x" 1 false false 4)).1.out =
      w.out ++ [("s", Pkt.publish "t" "x" 0 false false 0), ("p", Pkt.puback 4)] ∧
    -- node 1 unreachable from node 0: no PUBACK
    reachableFrom wu 0 1 = false ∧ (wu.process 0 "Sp" (.publish "t" "x" 1 false false 4)).1.out = wu.out ∧
    -- node 1's log rejects the message: no PUBACK
    logAccepts (wl.node 1) = false ∧ (wl.process 0 "Sp" (.publish "t" "x" 1 false false 4)).1.out = wl.out := by
  decide +kernel

end Wasp.Broker
