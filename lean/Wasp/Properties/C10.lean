import Wasp.Model.Dist
import Wasp.Proofs.DistSync
/-!
# C10 — a full-state exchange brings a lagging node up to date

`snapshot A` is what `LocalState` returns: every stored entry of `A`, removed ones included.
After `B' = merge B (snapshot A)`, every key where `A`'s entry is strictly newer than `B`'s
holds `A`'s entry on `B'` — additions and removals alike; a fresh `B` ends up storing exactly
what `A` stores; after an exchange in both directions the two nodes store the same entry
under every key (tie-free), whatever gossip was lost before.

`Inv st`: what every state reachable through the model's operations satisfies
(`C10_inv_merge`, `C10_inv_init`): keys are unique, stored entries are valid, the retained
map is keyed by its entries' topics.
-/
namespace Wasp.Dist
open Wasp.Crdt Wasp.Topic

structure Inv (st : State) : Prop where
  sessKeys : (st.sessions.map (·.id)).Nodup
  sessValid : ∀ s ∈ st.sessions, validSession s
  subKeys : (st.subs.map (·.1)).Nodup
  subInner : ∀ kl ∈ st.subs, (kl.2.map (·.session)).Nodup ∧ ∀ s ∈ kl.2, s.pattern = kl.1 ∧ validSub s
  topKeys : (st.topics.map (·.1)).Nodup
  topValid : ∀ kr ∈ st.topics, kr.1 = kr.2.topic ∧ validRetained kr.2

theorem C10_inv_init (p : Nat) : Inv { peer := p } := by
  constructor <;> simp

/-- merging an event of valid entries preserves the invariant -/
theorem C10_inv_merge (st : State) (ev : Event) (h : Inv st)
    (hs : ∀ s ∈ ev.sessions, validSession s) (hu : ∀ s ∈ ev.subs, validSub s)
    (hr : ∀ r ∈ ev.retained, validRetained r) : Inv (merge st ev) := by
  have hsub := mergeSubs_inv ev.subs st.subs ⟨h.subKeys, h.subInner⟩ hu
  refine ⟨mergeSessions_nodup _ _ h.sessKeys, ?_, hsub.1, hsub.2, mergeRetained_nodup _ _ h.topKeys, ?_⟩
  · intro s hs'
    rcases mergeSessions_mem hs' with h1 | h1
    · exact hs s h1
    · exact h.sessValid s h1
  · exact mergeRetained_forall (fun k r => k = r.topic ∧ validRetained r) _ _ h.topValid
      (fun r hr' => ⟨rfl, hr r hr'⟩)

/-! ## merging a snapshot, key by key -/

theorem sess_merge_snapshot (A B : State) (hA : Inv A) (id : String) :
    sessLookup id (merge B (snapshot A)).sessions =
      pick SessionMD.ts (sessLookup id A.sessions) (sessLookup id B.sessions) :=
  sessLookup_mergeSessions_sy _ _ hA.sessValid hA.sessKeys id

theorem subs_merge_snapshot (A B : State) (hA : Inv A) (pattern session : String) :
    subEntry (merge B (snapshot A)).subs pattern session =
      pick Sub.ts (subEntry A.subs pattern session) (subEntry B.subs pattern session) :=
  subEntry_merge_snapshot _ _ ⟨hA.subKeys, hA.subInner⟩ pattern session

theorem retained_merge_snapshot (A B : State) (hA : Inv A) (hB : (B.topics.map (·.1)).Nodup) (topic : String) :
    retEntry (merge B (snapshot A)).topics topic =
      pick Retained.ts (retEntry A.topics topic) (retEntry B.topics topic) :=
  retEntry_merge_snapshot _ _ hB hA.topKeys hA.topValid topic

/-! ## newer entries of A win on B -/

theorem C10_sessions_newer_wins (A B : State) (hA : Inv A) (hB : Inv B) (id : String) (a : SessionMD)
    (ha : sessLookup id A.sessions = some a)
    (hnew : ∀ b, sessLookup id B.sessions = some b → b.ts < a.ts) :
    sessLookup id (merge B (snapshot A)).sessions = some a := by
  have _ := hB
  rw [sess_merge_snapshot A B hA, ha]
  exact pick_newer _ a _ hnew

theorem C10_subs_newer_wins (A B : State) (hA : Inv A) (hB : Inv B) (pattern session : String) (a : Sub)
    (ha : subEntry A.subs pattern session = some a)
    (hnew : ∀ b, subEntry B.subs pattern session = some b → b.ts < a.ts) :
    subEntry (merge B (snapshot A)).subs pattern session = some a := by
  have _ := hB
  rw [subs_merge_snapshot A B hA, ha]
  exact pick_newer _ a _ hnew

theorem C10_retained_newer_wins (A B : State) (hA : Inv A) (hB : Inv B) (topic : String) (a : Retained)
    (ha : retEntry A.topics topic = some a)
    (hnew : ∀ b, retEntry B.topics topic = some b → b.ts < a.ts) :
    retEntry (merge B (snapshot A)).topics topic = some a := by
  rw [retained_merge_snapshot A B hA hB.topKeys, ha]
  exact pick_newer _ a _ hnew

/-- and B's own entries that are at least as new stay (sessions only; the other stores alike, by `pick_keeps`) -/
theorem C10_sessions_keeps_newer (A B : State) (hA : Inv A) (hB : Inv B) (id : String) (b : SessionMD)
    (hb : sessLookup id B.sessions = some b)
    (hnew : ∀ a, sessLookup id A.sessions = some a → a.ts ≤ b.ts) :
    sessLookup id (merge B (snapshot A)).sessions = some b := by
  have _ := hB
  rw [sess_merge_snapshot A B hA, hb]
  exact pick_keeps _ _ b hnew

/-! ## a fresh node ends up with exactly A's entries -/

theorem C10_fresh (A : State) (hA : Inv A) (p : Nat) :
    let B' := merge { peer := p } (snapshot A)
    (∀ id, sessLookup id B'.sessions = sessLookup id A.sessions) ∧
    (∀ pat sess, subEntry B'.subs pat sess = subEntry A.subs pat sess) ∧
    (∀ t, retEntry B'.topics t = retEntry A.topics t) := by
  refine ⟨fun id => ?_, fun pat sess => ?_, fun t => ?_⟩
  · rw [sess_merge_snapshot A _ hA]
    exact pick_none_right _ _
  · rw [subs_merge_snapshot A _ hA]
    exact pick_none_right _ _
  · rw [retained_merge_snapshot A { peer := p } hA List.nodup_nil]
    exact pick_none_right _ _

/-! ## exchange in both directions -/

/-- no key carries two different entries with the same timestamp across the two nodes -/
def TieFreeAcross (A B : State) : Prop :=
  (∀ id a b, sessLookup id A.sessions = some a → sessLookup id B.sessions = some b → a.ts = b.ts → a = b) ∧
  (∀ p s a b, subEntry A.subs p s = some a → subEntry B.subs p s = some b → a.ts = b.ts → a = b) ∧
  (∀ t a b, retEntry A.topics t = some a → retEntry B.topics t = some b → a.ts = b.ts → a = b)

theorem C10_both_ways (A B : State) (hA : Inv A) (hB : Inv B) (tf : TieFreeAcross A B) :
    let A' := merge A (snapshot B)
    let B' := merge B (snapshot A)
    (∀ id, sessLookup id A'.sessions = sessLookup id B'.sessions) ∧
    (∀ pat sess, subEntry A'.subs pat sess = subEntry B'.subs pat sess) ∧
    (∀ t, retEntry A'.topics t = retEntry B'.topics t) := by
  refine ⟨fun id => ?_, fun pat sess => ?_, fun t => ?_⟩
  · rw [sess_merge_snapshot A B hA, sess_merge_snapshot B A hB]
    exact pick_symm _ _ _ (tf.1 id)
  · rw [subs_merge_snapshot A B hA, subs_merge_snapshot B A hB]
    exact pick_symm _ _ _ (tf.2.1 pat sess)
  · rw [retained_merge_snapshot A B hA hB.topKeys, retained_merge_snapshot B A hB hA.topKeys]
    exact pick_symm _ _ _ (tf.2.2 t)

end Wasp.Dist
