import Wasp.Properties.Reachable
import Wasp.Properties.E2E
import Wasp.Properties.C14
import Wasp.Properties.C02
import Wasp.Properties.C17
import Wasp.Proofs.BrokerT7
/-!
# More invariants of every reachable world, and the end-to-end theorems without side conditions

`GlobalInv2` adds to `GlobalInv` (Properties/Reachable.lean): the peers of the nodes are pairwise distinct and are the
peers the cluster started with (node k has peer k+1), every node's replicated store carries that node's own peer, and
every stored subscription names the peer of SOME node of the cluster. Corollaries: C14 / C02 theorems without
`PeersDistinct`, and C01 end to end on every reachable one-node world.
-/
namespace Wasp.Broker
open Wasp.Dist Wasp.Topic Wasp.Crdt Wasp.Broker.AgentT7

/-! `GlobalInv2` is defined in Wasp/Proofs/BrokerT7.lean (namespace `Wasp.Broker`): the four fields `base`, `peers`,
    `distPeer`, `subPeers` and one more that makes it inductive: `pendPeers` (gossip not yet delivered only carries
    subscriptions naming a peer in 1..number of nodes, as `GlobalInv.pendClock` does for the stamps). No side condition
    on any operation is needed. `globalInv2_iff`: `GlobalInv2 w ↔ GlobalInv w ∧ PInv w.nodes.length w`; the peer part
    `PInv` is preserved by every `BOp` (`pinv_step`). -/

theorem globalInv2_init (n : Nat) : GlobalInv2 (World.init n) := by
  refine (globalInv2_iff _).mpr ⟨globalInv_init n, ?_⟩
  have h := pinv_init n
  rw [h.len]
  exact h

theorem globalInv2_step (w : World) (op : BOp) (h : GlobalInv2 w) : GlobalInv2 (applyOp w op) := by
  obtain ⟨hb, hp⟩ := (globalInv2_iff w).mp h
  refine (globalInv2_iff _).mpr ⟨globalInv_step w op hb, ?_⟩
  rw [pinv_len hp op]
  exact pinv_step hp op

/-- a whole sequence of operations, from any world satisfying the invariant -/
theorem globalInv2_run (ops : List BOp) : ∀ w : World, GlobalInv2 w → GlobalInv2 (run w ops) := by
  induction ops with
  | nil => intro w h; exact h
  | cons op rest ih => intro w h; exact ih _ (globalInv2_step w op h)

theorem reachable_inv2 (w : World) (h : Reachable w) : GlobalInv2 w := by
  obtain ⟨n, ops, rfl⟩ := h
  exact globalInv2_run ops _ (globalInv2_init n)

theorem reachable_peersDistinct (w : World) (h : Reachable w) : PeersDistinct w := by
  have hp := (reachable_inv2 w h).peers
  intro a b ha hb hab
  rw [hp a ha, hp b hb] at hab
  omega

/-- C14 on reachable worlds: which logs a publish is appended to -/
theorem C14_dest_log_reachable (w : World) (hr : Reachable w) (i : Nat) (p : Pub) (hi : i < w.nodes.length) (j : Nat)
    (hj : j < w.nodes.length) :
    ((w.distribute i p).1.node j).log =
      (w.node j).log ++ (if (w.node j).peer ∈ destinations w i p ∧ reachableFrom w i j = true ∧ logAccepts (w.node j) = true then [p] else []) :=
  C14_dest_log w i p (reachable_peersDistinct w hr) hi j hj

/-- C14 on reachable worlds: Distribute succeeds iff every destination is reachable and its log accepts the message;
    on a reachable world every destination peer IS a node of the cluster -/
theorem C14_result_reachable (w : World) (hr : Reachable w) (i : Nat) (p : Pub) (hi : i < w.nodes.length) :
    (w.distribute i p).2 = true ↔
      ∀ peer ∈ destinations w i p, ∃ j, j < w.nodes.length ∧ (w.node j).peer = peer ∧ reachableFrom w i j = true ∧ logAccepts (w.node j) = true :=
  C14_result w i p (reachable_peersDistinct w hr) hi

theorem C14_destinations_are_nodes (w : World) (hr : Reachable w) (i : Nat) (p : Pub) :
    ∀ peer ∈ destinations w i p, ∃ j, j < w.nodes.length ∧ (w.node j).peer = peer := by
  have hinv := reachable_inv2 w hr
  intro peer hpeer
  unfold destinations at hpeer
  rw [AgentB.mem_dedupNat] at hpeer
  obtain ⟨u, hu, rfl⟩ := List.mem_map.mp hpeer
  obtain ⟨kl, hkl, hukl, _⟩ := AgentD.mem_subByPattern hu
  have hb := hinv.subPeers i kl hkl u hukl
  refine ⟨u.peer - 1, by omega, ?_⟩
  rw [hinv.peers (u.peer - 1) (by omega)]
  omega

/-- C01 end to end on every reachable ONE-NODE world whose subscriptions are all QoS 0 and whose log accepts the
    message: a packet is written iff it is the PUBLISH for a live stored subscription whose filter matches the topic
    and whose session is registered -/
theorem C01_e2e_exact_reachable (w : World) (hr : Reachable w) (hlen : w.nodes.length = 1) (sid : String) (s : Sess)
    (hs : (w.node 0).sess sid = some s) (topic payload : String) (dup : Bool) (mid : Int)
    (hq0 : ∀ kl ∈ (w.node 0).dist.subs, ∀ u ∈ kl.2, u.qos = 0)
    (hlog : (w.node 0).logFailAll = false ∧ (w.node 0).logFailAt.contains (w.node 0).logCalls = false)
    (c : String) (pk : Pkt) :
    (c, pk) ∈ ((w.process 0 sid (.publish topic payload 0 false dup mid)).1.out.drop w.out.length) ↔
      ∃ kl ∈ (w.node 0).dist.subs, ∃ u ∈ kl.2,
        mqttMatch (levels kl.1) (levels (prefixMountPoint s.mount topic)) = true ∧ isAdded u.stamp = true ∧
        ∃ r, (w.node 0).sess u.session = some r ∧ r.conn = c ∧
          pk = Pkt.publish (trimMountPoint r.mount (prefixMountPoint s.mount topic)) payload 0 false dup 0 := by
  have hinv := reachable_inv2 w hr
  refine C01_e2e_exact w hlen sid s hs topic payload dup mid hq0 ?_ hlog c pk
  intro kl hkl u hukl
  have hb := hinv.subPeers 0 kl hkl u hukl
  rw [hinv.peers 0 (by omega)]
  omega

end Wasp.Broker
