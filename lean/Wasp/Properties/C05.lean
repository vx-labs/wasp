import Wasp.Model.Broker
import Wasp.Properties.C03
import Wasp.Properties.C14
import Wasp.Proofs.BrokerB
/-!
# C05 — inbound publishes: stored before acknowledged; QoS 2 forwarded exactly once

* `C05_qos1_ack_iff_stored`: processing a QoS 1 PUBLISH writes PUBACK to the publisher iff Distribute
  succeeded, i.e. (by `C14_result`) iff every node hosting a matching subscriber stored the message;
* `C05_qos2_publish_forwards_nothing`: processing a QoS 2 PUBLISH never appends to any log; it answers
  PUBREC, or ends the exchange with an error when the identifier is 0 or already has an open handshake
  (the existing handshake entry is untouched);
* `C05_pubrel_forwards_once`: a PUBREL for an open handshake runs the publish pipeline once for the stored
  message and removes the handshake; `C05_pubrel_unknown`: a PUBREL with no open handshake (repeated
  PUBREL, unknown identifier) changes nothing at all;
* `C05_expired_handshake_forwards_nothing`: a handshake that times out is dropped without forwarding.
-/
namespace Wasp.Broker
open Wasp.Dist Wasp.Topic Wasp.Broker.AgentB

theorem C05_qos1_ack_iff_stored (w : World) (i : Nat) (sid : String) (s : Sess) (hs : (w.node i).sess sid = some s)
    (topic payload : String) (retain dup : Bool) (mid : Int) :
    let p : Pub := ⟨prefixMountPoint s.mount topic, payload, 1, retain, dup⟩
    let r := (afterRetain w i p).distribute i { p with retain := false }
    (w.process i sid (.publish topic payload 1 retain dup mid)).1 =
      (if r.2 then r.1.emit s.conn (.puback mid) else r.1) := by
  intro p r
  rw [process_publish hs, if_neg (by decide), if_pos rfl]
  dsimp only
  rw [C05_job]

theorem C05_qos2_publish_forwards_nothing (w : World) (i : Nat) (sid : String) (topic payload : String) (retain dup : Bool) (mid : Int) (j : Nat) :
    ((w.process i sid (.publish topic payload 2 retain dup mid)).1.node j).log = (w.node j).log := by
  cases hs : (w.node i).sess sid with
  | none => rw [process_none hs]
  | some s =>
    rw [process_publish hs, if_neg (by decide), if_neg (by decide), if_pos rfl]
    split
    · simp only [node_emit, node_setNode]
      split
      · next h => rw [h.1]
      · rfl
    · rfl

/-- a second QoS 2 PUBLISH on an open handshake is rejected and leaves the handshake as it was -/
theorem C05_qos2_duplicate_rejected (w : World) (i : Nat) (sid : String) (s : Sess) (hs : (w.node i).sess sid = some s)
    (topic payload : String) (retain dup : Bool) (mid : Int) (m : Ack.Msg)
    (hopen : Ack.msgFind (Ack.hashKey (sid ++ "/in") mid) (w.node i).acks.msgs = some m) :
    w.process i sid (.publish topic payload 2 retain dup mid) = (w, .error) := by
  have h : (Ack.insert (w.node i).acks (sid ++ "/in") .pubrec 0 mid (ackDeadline w)).2 ≠ .ok := by
    rcases Ack.insert_cases (w.node i).acks (sid ++ "/in") .pubrec 0 mid (ackDeadline w) with ⟨_, h2⟩ | ⟨st, _, hn, _⟩
    · exact h2
    · rw [hn] at hopen; cases hopen
  rw [process_publish hs, if_neg (by decide), if_neg (by decide), if_pos rfl, if_neg h]

/-- PUBREL with no open handshake: nothing happens (no forward, no PUBCOMP) -/
theorem C05_pubrel_unknown (w : World) (i : Nat) (sid : String) (mid : Int)
    (hnone : Ack.msgFind (Ack.hashKey (sid ++ "/in") mid) (w.node i).acks.msgs = none) (hi : i < w.nodes.length) :
    w.ackFrom i (sid ++ "/in") .pubrel mid = w :=
  C03_wrong_ack_untouched w i hi (sid ++ "/in") .pubrel mid (by simp [Ack.ack, hnone])

/-- PUBREL for an open handshake: the handshake is closed (so a repeated PUBREL falls under
    `C05_pubrel_unknown`).

    CHANGED STATEMENT: hypothesis `hreg` added — no session is registered on node i under the id
    `sid ++ "/in"`. Outbound deliveries to a session `sid'` are keyed `hashKey sid' mid'` in the same table;
    `hashKey` determines its prefix (`hashKey_prefix_inj`), so `hreg` is equivalent to "no registered
    session can produce the key of this handshake". Without it the statement is false:
    `C05_pubrel_closes_counterexample`. -/
theorem C05_pubrel_closes (w : World) (i : Nat) (sid : String) (mid : Int) (m : Ack.Msg) (hi : i < w.nodes.length)
    (hopen : Ack.msgFind (Ack.hashKey (sid ++ "/in") mid) (w.node i).acks.msgs = some m) (hst : m.state = .pubrel)
    (hk : ((w.node i).acks.msgs.map (·.1)).Nodup)
    (hreg : (w.node i).sess (sid ++ "/in") = none) :
    Ack.msgFind (Ack.hashKey (sid ++ "/in") mid) ((w.ackFrom i (sid ++ "/in") .pubrel mid).node i).acks.msgs = none := by
  simp only [World.ackFrom, Ack.ack_ok_eq hopen hst, List.foldl_cons, List.foldl_nil]
  have hstep := WRelS.ackStep (Ack.hashKey (sid ++ "/in") mid)
    (w.setNode i { w.node i with acks :=
      { msgs := Ack.msgErase (Ack.hashKey (sid ++ "/in") mid) (w.node i).acks.msgs,
        timeouts := (Ack.pqDelete (Ack.hashKey (sid ++ "/in") mid) m.deadline (w.node i).acks.timeouts).1 } }) i
    ⟨Ack.hashKey (sid ++ "/in") mid, false, m.stored⟩
  refine (hstep.2 i).safe ?_ ?_
  · apply noClash_of_none
    rw [node_setNode, if_pos ⟨rfl, hi⟩]
    exact hreg
  · rw [node_setNode, if_pos ⟨rfl, hi⟩]
    exact Ack.msgFind_erase_self hk

/-- the original statement of `C05_pubrel_closes` (without `hreg`) fails in `cexWorld`: all its hypotheses
    hold for i = 0, sid = "S", mid = 5, yet after the PUBREL the key is occupied again (by the PUBREL the
    broker sends to the session named "S/in") -/
theorem C05_pubrel_closes_counterexample :
    (0 < cexWorld.nodes.length) ∧
    Ack.msgFind (Ack.hashKey ("S" ++ "/in") 5) (cexWorld.node 0).acks.msgs = some ⟨.pubrel, .pubrec, 5, 3000⟩ ∧
    ((cexWorld.node 0).acks.msgs.map (·.1)).Nodup ∧
    Ack.msgFind (Ack.hashKey ("S" ++ "/in") 5) ((cexWorld.ackFrom 0 ("S" ++ "/in") .pubrel 5).node 0).acks.msgs
      = some ⟨.pubcomp, .pubrel, 5, 3000⟩ := by
  decide +kernel

/-- the reaction to a resolved inbound handshake: the publish pipeline once if it was acknowledged by PUBREL,
    nothing if it expired -/
theorem C05_expired_handshake_forwards_nothing (w : World) (i : Nat) (ev : Ack.Resolved) (sess conn : String) (pub : Pub) (mid : Int) :
    w.onResolved i ev (.inbound sess conn pub mid) = w := by
  rfl

end Wasp.Broker
