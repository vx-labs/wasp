import Wasp.Generated.AuthLit
import Wasp.Generated.BucketLit
import Wasp.Generated.IdPoolLit
import Wasp.Generated.Facts
import Wasp.Generated.LockTable
import Wasp.Generated.Translated
import Wasp.Model.AckQueue
import Wasp.Model.Auth
import Wasp.Model.Broker
import Wasp.Model.BrokerOps
import Wasp.Model.WireEnc
import Wasp.Model.Conc
import Wasp.Model.Crdt
import Wasp.Model.Dist
import Wasp.Model.GoPrelude
import Wasp.Model.IdPool
import Wasp.Model.MsgLog
import Wasp.Model.Topic
import Wasp.Model.Trie
import Wasp.Model.Wire
import Wasp.Proofs.AckQueue
import Wasp.Proofs.Auth
import Wasp.Proofs.BrokerA
import Wasp.Proofs.BrokerB
import Wasp.Proofs.BrokerC
import Wasp.Proofs.BrokerD
import Wasp.Proofs.BrokerF
import Wasp.Proofs.Conc
import Wasp.Proofs.ConcT2
import Wasp.Proofs.GoLit
import Wasp.Proofs.IdPoolLit
import Wasp.Proofs.BucketLit
import Wasp.Proofs.AuthLit
import Wasp.Proofs.BrokerRel
import Wasp.Proofs.BrokerSteps
import Wasp.Proofs.BrokerRegs
import Wasp.Proofs.BrokerT1
import Wasp.Proofs.BrokerT3
import Wasp.Proofs.BrokerT5
import Wasp.Proofs.BrokerT6
import Wasp.Proofs.BrokerT7
import Wasp.Proofs.BrokerT8
import Wasp.Proofs.BrokerT9
import Wasp.Proofs.BrokerT10
import Wasp.Proofs.BrokerT11
import Wasp.Proofs.BrokerT12
import Wasp.Proofs.BrokerT13
import Wasp.Proofs.BrokerT14
import Wasp.Proofs.BrokerT18
import Wasp.Proofs.WireT16
import Wasp.Proofs.Dist
import Wasp.Proofs.DistSync
import Wasp.Proofs.Generated
import Wasp.Proofs.IdPool
import Wasp.Proofs.MsgLog
import Wasp.Proofs.Trie
import Wasp.Properties.C01
import Wasp.Properties.C02
import Wasp.Properties.C02Pool
import Wasp.Properties.C03
import Wasp.Properties.C04
import Wasp.Properties.C04Lit
import Wasp.Properties.C05
import Wasp.Properties.C06
import Wasp.Properties.C06Lit
import Wasp.Properties.C07
import Wasp.Properties.C08
import Wasp.Properties.C09
import Wasp.Properties.C10
import Wasp.Properties.C11
import Wasp.Properties.C11Time
import Wasp.Properties.C12
import Wasp.Properties.C13
import Wasp.Properties.C14
import Wasp.Properties.C15
import Wasp.Properties.C16
import Wasp.Properties.C16Lit
import Wasp.Properties.C17
import Wasp.Properties.C18
import Wasp.Properties.C19
import Wasp.Properties.C20
import Wasp.Properties.C20Table
import Wasp.Properties.C20Lift
import Wasp.Properties.Reachable
import Wasp.Properties.E2E
import Wasp.Properties.Reachable2
import Wasp.Properties.E2EMulti
import Wasp.Properties.C17E2E
import Wasp.Properties.E2ERetainWill
import Wasp.Properties.C18E2E
import Wasp.Properties.C02E2E
import Wasp.Properties.C05C12E2E
import Wasp.Properties.C03C14E2E
import Wasp.Properties.WireRoundTrip
import Wasp.Properties.Facts.C02
import Wasp.Properties.Facts.Wiring
import Wasp.Properties.Facts.C03
import Wasp.Properties.Facts.C04
import Wasp.Properties.Facts.C05
import Wasp.Properties.Facts.C06
import Wasp.Properties.Facts.C09
import Wasp.Properties.Facts.C10
import Wasp.Properties.Facts.C11
import Wasp.Properties.Facts.C12
import Wasp.Properties.Facts.C13
import Wasp.Properties.Facts.C14
import Wasp.Properties.Facts.C15
import Wasp.Properties.Facts.C17
import Wasp.Properties.Facts.C18
import Wasp.Properties.Facts.C20
import Wasp.Model.AnswerLost
import Wasp.Properties.AnswerLost
import Wasp.Properties.Facts.C16
import Wasp.Proofs.BrokerT19
import Wasp.Properties.C11Record
import Wasp.Proofs.BrokerT20
import Wasp.Properties.C11Reach
import Wasp.Generated.SessionLit
import Wasp.Generated.SessionMountLit
import Wasp.Model.GoPreludeBytes
import Wasp.Proofs.SessionLit
import Wasp.Proofs.SessionMountLit
import Wasp.Properties.C01SessLit
